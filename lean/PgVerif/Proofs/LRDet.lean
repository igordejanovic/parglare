import PgVerif.Proofs.LRComplete
import PgVerif.Proofs.ListLemmas
/-!
The deterministic LR driver runs the table in the sense of `Follows` (`Follows.det`, "reaches" being
`stepsTo`: some number of `step`s) when every cell holds at most one action and the expected
terminals of a state never match the same position together (`DetOK`, which `detOK_of_bool` gets
from the executable `detTableB`, `lexDetB`): its scanner then finds exactly the token that stands at
the position (`nextTokens_edge`) and `step` applies the one action of the cell (`step_act`).
-/
namespace Pg

variable {g : Grammar} {T : Table} {inp : Input}

/-- `flen` makes the `zip` in `Table.expected` keep every cell terminal, `nodup` is what
`recognize_unique` asks; `lex` speaks of every position `p`, also outside the text, which is why
`detOK_of_bool` needs `InputOK`. -/
structure DetOK (T : Table) (inp : Input) : Prop where
  det : ∀ s a, (T.actions s a).length ≤ 1
  flen : ∀ s, (T.finish s).length = (T.cells s).length
  nodup : ∀ s, ((T.cells s).map (·.1)).Nodup
  lex : ∀ s p a b, a ∈ (T.cells s).map (·.1) → b ∈ (T.cells s).map (·.1) →
    (inp.matchAt a p).isSome = true → (inp.matchAt b p).isSome = true → a = b

theorem recognize_nomatch {p : Nat} {l : List (Nat × Bool)} (h : cands inp p l = []) (last : Nat)
    (acc : List Tok) : recognize T inp p l last acc = acc.reverse := by
  obtain ⟨r, hr, hsub⟩ := recognize_sub T inp p l last acc
  rw [h] at hsub
  rw [hr, List.sublist_nil.mp hsub, List.append_nil]

theorem recognize_unique (p a len : Nat) (hm : inp.matchAt a p = some len) :
    ∀ (l : List (Nat × Bool)) (last : Nat), (∀ x ∈ l, x.1 ≠ a → inp.matchAt x.1 p = none) →
      a ∈ l.map (·.1) → (l.map (·.1)).Nodup →
      recognize T inp p l last [] = [⟨a, p, len⟩] := by
  intro l
  induction l with
  | nil => intro last _ h _; cases h
  | cons x rest ih =>
    intro last hno hmem hnd
    obtain ⟨b, fin⟩ := x
    obtain ⟨hbn, hnd'⟩ := List.nodup_cons.mp hnd
    -- nothing has matched yet, so the cut at a lower priority does not apply
    rw [recognize, List.isEmpty_nil, Bool.not_true, Bool.and_false, if_neg Bool.false_ne_true]
    by_cases hb : b = a
    · subst hb
      have hrest : cands inp p rest = [] := List.filterMap_eq_nil_iff.mpr fun y hy => by
        rw [candOf, hno y (List.mem_cons_of_mem _ hy) fun he => hbn (he ▸ List.mem_map_of_mem (f := (·.1)) hy)]
      rw [hm]
      cases fin with
      | true => rfl
      | false => exact recognize_nomatch hrest _ _
    · rw [hno (b, fin) List.mem_cons_self hb]
      exact ih _ (fun y hy => hno y (List.mem_cons_of_mem _ hy))
        ((List.mem_cons.mp hmem).resolve_left (Ne.symm hb)) hnd'

theorem mem_cells_of_action {s a : Nat} {act : Action} (h : act ∈ T.actions s a) :
    a ∈ (T.cells s).map (·.1) :=
  let ⟨c, hc, he, _⟩ := actions_mem h
  List.mem_map.mpr ⟨c, hc, he⟩

theorem nextTokens_at_end (lexDis : Bool) {s : Nat} (h : (T.cells s).any (fun c => c.1 == STOP) = true) :
    nextTokens T inp true lexDis s inp.len = [⟨STOP, inp.len, 0⟩] := by
  unfold nextTokens
  simp only [h, Bool.not_true, Bool.false_or, beq_self_eq_true, Bool.and_self, if_true,
    Nat.lt_irrefl, if_false, List.append_nil]
  cases lexDis
  · rfl
  · rfl

theorem nextTokens_inside (lexDis : Bool) {s p : Nat} {tok : Tok} (hlt : p < inp.len)
    (h : recognize T inp p (T.expected s) 0 [] = [tok]) : nextTokens T inp true lexDis s p = [tok] := by
  unfold nextTokens
  simp only [beq_eq_false_iff_ne.mpr (Nat.ne_of_lt hlt), Bool.not_true, Bool.false_or, Bool.and_false,
    Bool.false_eq_true, if_false, hlt, if_true, List.nil_append, h]
  cases lexDis
  · rfl
  · rfl

/-- The scanner finds the token that stands at the position, if the state has an action on it. -/
theorem nextTokens_edge (hd : DetOK T inp) (hin : InputOK inp) (lexDis : Bool) {s i : Nat} {tok : Tok}
    (he : Edge inp i tok) {act : Action} (hact : act ∈ T.actions s tok.term) :
    nextTokens T inp true lexDis s (inp.skip i) = [tok] := by
  have hcell := mem_cells_of_action hact
  obtain ⟨term, st, len⟩ := tok
  obtain rfl : st = inp.skip i := he.start
  by_cases hstop : term = STOP
  · subst hstop
    obtain ⟨hp, rfl⟩ : inp.skip i = inp.len ∧ len = 0 := he.stop rfl
    obtain ⟨x, hx, hxe⟩ := List.mem_map.mp hcell
    rw [hp]
    exact nextTokens_at_end lexDis (List.any_eq_true.mpr ⟨x, hx, beq_iff_eq.mpr hxe⟩)
  · obtain ⟨hm, hl⟩ := he.real hstop
    have hmatch : inp.matchAt term (inp.skip i) = some len := Input.matchAt_eq_some.mpr ⟨hstop, hm, hl⟩
    apply nextTokens_inside lexDis
      (Nat.lt_of_lt_of_le (Nat.lt_add_of_pos_right hl) (hin.mlen_le _ _ _ hm))
    apply recognize_unique (inp.skip i) term len hmatch
    · intro x hx hxa
      have hxc : x.1 ∈ (T.cells s).map (·.1) := expected_fst (hd.flen s) ▸ List.mem_map_of_mem hx
      exact Option.not_isSome_iff_eq_none.mp fun hsome =>
        hxa (hd.lex s _ x.1 term hxc hcell hsome (hmatch ▸ rfl))
    · rw [expected_fst (hd.flen s)]; exact hcell
    · rw [expected_fst (hd.flen s)]; exact hd.nodup s

theorem nextTokens_next (hd : DetOK T inp) (hin : InputOK inp) (lexDis : Bool) {c : Config}
    {σ : List Nat} {toks : List Tok} {e : Nat} (hs : Sim inp c σ toks e) {act : Action}
    (hact : act ∈ T.actions c.top (nextTok inp toks e).term) :
    nextTokens T inp true lexDis c.top (inp.skip c.pos) = [nextTok inp toks e] :=
  nextTokens_edge hd hin lexDis hs.edge hact

def stepsTo (g : Grammar) (T : Table) (inp : Input) (cf : LRCfg) : Nat → Config → Config → Prop
  | 0, c, c' => c = c'
  | n + 1, c, c' => ∃ c1, step g T inp cf c = .next c1 ∧ stepsTo g T inp cf n c1 c'

theorem stepsTo_trans {cf : LRCfg} (n m : Nat) (a b c : Config)
    (h1 : stepsTo g T inp cf n a b) (h2 : stepsTo g T inp cf m b c) : stepsTo g T inp cf (n + m) a c := by
  fun_induction stepsTo g T inp cf n a b with
  | case1 a b => cases h1; rw [Nat.zero_add]; exact h2
  | case2 n a b ih =>
    obtain ⟨c1, hs, hrest⟩ := h1
    rw [Nat.succ_add]
    exact ⟨c1, hs, ih c1 hrest h2⟩

theorem run_stepsTo {cf : LRCfg} (n : Nat) (c c' : Config) (h : stepsTo g T inp cf n c c') (m : Nat) :
    run g T inp cf (n + m) c = run g T inp cf m c' := by
  fun_induction stepsTo g T inp cf n c c' with
  | case1 c c' => cases h; rw [Nat.zero_add]
  | case2 n c c' ih =>
    obtain ⟨c1, hs, hrest⟩ := h
    rw [Nat.succ_add, run, hs]
    exact ih c1 hrest

theorem run_mono_of_ne (cf : LRCfg) (fuel k : Nat) (c : Config) (o : Outcome) (ho : o ≠ .outOfFuel)
    (h : run g T inp cf fuel c = o) : run g T inp cf (fuel + k) c = o := by
  fun_induction run g T inp cf fuel c with
  | case1 => exact absurd h.symm ho
  | case2 f c c' hs ih => rw [Nat.succ_add, run, hs]; exact ih h
  | case3 f c o' hs => rw [Nat.succ_add, run, hs]; exact h

theorem pickAction_single (a : Action) : pickAction g a [] = some a := by
  cases a <;> rfl

theorem step_act (hd : DetOK T inp) (cf : LRCfg) (c : Config) (p : Nat) (tk : Tok) (act : Action)
    (hla : c.la = some (p, some tk)) (hact : act ∈ T.actions c.top tk.term) :
    step g T inp cf c = applyAction g T c p (some tk) act := by
  have hcell : T.actions c.top tk.term = [act] := singleton_of_mem hact (hd.det _ _)
  exact step_act_of hla
    (by simp only [cellFor, hcell, List.isEmpty_cons, Bool.false_and, Bool.false_eq_true, if_false])
    (pickAction_single act)

theorem Follows.det (hd : DetOK T inp) (hin : InputOK inp) (cf : LRCfg) (hcf : cf.consumeInput = true) :
    Follows g T inp (fun c c' => ∃ n, stepsTo g T inp cf n c c') where
  refl _ := ⟨0, rfl⟩
  trans := fun ⟨n, h1⟩ ⟨m, h2⟩ => ⟨n + m, stepsTo_trans n m _ _ _ h1 h2⟩
  scan _ _ _ hla he hact :=
    ⟨1, _, step_scan hla (hcf ▸ nextTokens_edge hd hin cf.lexDis he hact), rfl⟩
  act c c' p tok a hla ha happ := ⟨1, c', (step_act hd cf c p tok a hla ha).trans happ, rfl⟩

def detTableB (T : Table) : Bool :=
  (List.range T.n).all (fun s =>
    (T.cells s).all (fun c => decide ((T.actions s c.1).length ≤ 1)) &&
    (T.finish s).length == (T.cells s).length &&
    decide ((T.cells s).map (·.1)).Nodup)

def lexDetB (T : Table) (inp : Input) : Bool :=
  (List.range T.n).all (fun s => (List.range (inp.len + 1)).all (fun p =>
    decide ((((T.cells s).map (·.1)).filter (fun a => (inp.matchAt a p).isSome)).length ≤ 1)))

/-- `hfin`: the table is empty beyond its `n` states, as every table decoded from a dump is. -/
theorem detOK_of_bool {T : Table} {inp : Input} (hT : detTableB T = true) (hL : lexDetB T inp = true)
    (hfin : ∀ s, T.n ≤ s → T.cells s = [] ∧ T.finish s = []) (hin : InputOK inp) : DetOK T inp := by
  simp only [detTableB, List.all_eq_true, List.mem_range, Bool.and_eq_true, decide_eq_true_eq,
    beq_iff_eq] at hT
  simp only [lexDetB, List.all_eq_true, List.mem_range, decide_eq_true_eq] at hL
  -- a cell exists only in a state of the table
  have hlt : ∀ s a, a ∈ (T.cells s).map (·.1) → s < T.n := fun s a ha =>
    Nat.lt_of_not_le fun hs => by rw [(hfin s hs).1] at ha; cases ha
  refine ⟨fun s a => ?_, fun s => ?_, fun s => ?_, fun s p a b ha hb hma hmb => ?_⟩
  · cases hact : T.actions s a with
    | nil => exact Nat.zero_le 1
    | cons act rest =>
      have ha := mem_cells_of_action (hact ▸ List.mem_cons_self)
      obtain ⟨c, hc, rfl⟩ := List.mem_map.mp ha
      rw [← hact]
      exact (hT s (hlt s _ ha)).1.1 c hc
  · by_cases hs : s < T.n
    · exact (hT s hs).1.2
    · obtain ⟨h1, h2⟩ := hfin s (Nat.le_of_not_lt hs)
      rw [h1, h2]
      rfl
  · by_cases hs : s < T.n
    · exact (hT s hs).2
    · rw [(hfin s (Nat.le_of_not_lt hs)).1]
      exact List.nodup_nil
  · -- a match lies inside the text, where `lexDetB` has looked
    obtain ⟨l, hm⟩ := Option.isSome_iff_exists.mp hma
    have hle := hin.mlen_le _ _ _ (Input.matchAt_eq_some.mp hm).2.1
    have hp : p < inp.len + 1 := Nat.lt_succ_of_le (Nat.le_trans (Nat.le_add_right p l) hle)
    have h1 := singleton_of_mem (List.mem_filter.mpr ⟨ha, hma⟩) (hL s (hlt s a ha) p hp)
    have h2 : b ∈ ((T.cells s).map (·.1)).filter fun a => (inp.matchAt a p).isSome :=
      List.mem_filter.mpr ⟨hb, hmb⟩
    rw [h1] at h2
    exact (List.mem_singleton.mp h2).symm

end Pg
