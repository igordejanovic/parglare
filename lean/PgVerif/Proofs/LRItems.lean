import PgVerif.Spec.LRValid
import PgVerif.Proofs.ListLemmas
/-!
What a table that passes the completeness validator (`Spec/LRValid.lean`) guarantees, read off once:
the terminal after a derived string is in FIRST of the symbols and their context (`der_next`), and
an item of a state (`ItemAt`) has what it calls for: shift, closure items and goto, reduction,
accept (`Valid.item_spec`). No parser is mentioned here.
-/
namespace Pg
open LRV

/-- `Xs` derives the terminal string `u` (no `STOP` inside). -/
inductive Der (g : Grammar) : List Sym → List Nat → Prop where
  | nil : Der g [] []
  | tok (a : Nat) (Xs : List Sym) (u : List Nat) (ha : a ≠ STOP) (rest : Der g Xs u) :
      Der g (.t a :: Xs) (a :: u)
  | prod (p : Nat) (pr : Prod) (Xs : List Sym) (u1 u2 : List Nat) (hp : g.prod? p = some pr)
      (h1 : Der g pr.rhs u1) (h2 : Der g Xs u2) : Der g (.nt pr.lhs :: Xs) (u1 ++ u2)

variable {g : Grammar} {T : Table} {I : Nat → List VItem} {F : FirstData}

theorem subsetB_iff {l1 l2 : List Nat} : subsetB l1 l2 = true ↔ ∀ a ∈ l1, a ∈ l2 := by
  simp only [subsetB, List.all_eq_true, List.contains_eq_mem, decide_eq_true_eq]

theorem subsetB_refl (l : List Nat) : subsetB l l = true :=
  subsetB_iff.mpr fun _ h => h

/-- FIRST of `Xs la` is FIRST of `Xs`, and `la` if `Xs` is nullable. -/
theorem mem_firstSeq {a : Nat} : ∀ (Xs : List Sym) (la : List Nat),
    a ∈ firstSeq F Xs la ↔ a ∈ firstSeq F Xs [] ∨ nullableSeq F Xs = true ∧ a ∈ la := by
  intro Xs
  induction Xs with
  | nil => intro la; simp only [firstSeq, nullableSeq, List.not_mem_nil, false_or, true_and]
  | cons X Xs ih =>
    intro la
    cases X with
    | t b => simp only [firstSeq, nullableSeq, Bool.false_eq_true, false_and, or_false]
    | nt B =>
      simp only [firstSeq, nullableSeq, List.mem_append]
      cases F.nul B with
      | false => simp only [Bool.false_eq_true, if_false, List.not_mem_nil, Bool.false_and, false_and, or_false]
      | true => simp only [if_true, ih la, Bool.true_and, or_assoc]

theorem firstSeq_mono (β : List Sym) {la la' : List Nat} (h : subsetB la la' = true) :
    subsetB (firstSeq F β la) (firstSeq F β la') = true :=
  subsetB_iff.mpr fun a ha =>
    (mem_firstSeq β la').mpr (((mem_firstSeq β la).mp ha).imp_right (.imp_right (subsetB_iff.mp h a)))

theorem firstSeq_append : ∀ (Xs β : List Sym) (la : List Nat),
    firstSeq F (Xs ++ β) la = firstSeq F Xs (firstSeq F β la) := by
  intro Xs
  induction Xs with
  | nil => intro β la; rfl
  | cons X Xs ih =>
    intro β la
    cases X with
    | t b => rfl
    | nt B => simp only [List.cons_append, firstSeq, ih]

theorem closed_spec (hc : F.closed g = true) (p : Nat) (pr : Prod) (hp : g.prod? p = some pr) :
    (∀ a ∈ firstSeq F pr.rhs [], a ∈ F.fst pr.lhs) ∧ (nullableSeq F pr.rhs = true → F.nul pr.lhs = true) := by
  simp only [FirstData.closed, List.all_eq_true, Bool.and_eq_true, Bool.or_eq_true,
    Bool.not_eq_true'] at hc
  obtain ⟨h1, h2⟩ := hc pr (List.mem_of_getElem? hp)
  exact ⟨subsetB_iff.mp h1, fun hn => h2.resolve_left (by rw [hn]; nofun)⟩

theorem closed_first (hc : F.closed g = true) {p : Nat} {pr : Prod} (hp : g.prod? p = some pr)
    (Xs : List Sym) (la : List Nat) :
    ∀ a ∈ firstSeq F pr.rhs (firstSeq F Xs la), a ∈ firstSeq F (.nt pr.lhs :: Xs) la := by
  obtain ⟨h1, h2⟩ := closed_spec hc p pr hp
  intro a ha
  rcases (mem_firstSeq pr.rhs _).mp ha with ha | ⟨hn, ha⟩
  · exact List.mem_append_left _ (h1 a ha)
  · rw [firstSeq, if_pos (h2 hn)]
    exact List.mem_append_right _ ha

/-- The first terminal of `u v`, where `Xs` derives `u`, is in FIRST of `Xs la` if that of `v` is
in `la`. -/
theorem der_head (hc : F.closed g = true) {Xs : List Sym} {u : List Nat} (h : Der g Xs u) :
    ∀ (la v : List Nat), (∀ b ∈ v.head?, b ∈ la) → ∀ b ∈ (u ++ v).head?, b ∈ firstSeq F Xs la := by
  induction h with
  | nil => exact fun la v h => h
  | tok a Xs u _ _ _ =>
    intro la v _ b hb
    cases hb
    exact List.mem_singleton_self a
  | prod p pr Xs u1 u2 hp _ _ ih1 ih2 =>
    intro la v hv b hb
    rw [List.append_assoc] at hb
    exact closed_first hc hp Xs la b (ih1 _ _ (ih2 la v hv) b hb)

theorem der_next (hc : F.closed g = true) {Xs : List Sym} {u : List Nat} (h : Der g Xs u)
    (β : List Sym) (la : List Nat) (a : Nat) (w : List Nat) (ha : a ∈ firstSeq F β la) :
    ∀ b w', u ++ a :: w = b :: w' → b ∈ firstSeq F (Xs ++ β) la := by
  intro b w' hb
  rw [firstSeq_append]
  exact der_head hc h _ (a :: w) (fun _ h => Option.some.inj h ▸ ha) b (hb ▸ rfl)

theorem hasItem_iff {items : List VItem} {p d : Nat} {la : List Nat} :
    hasItem items p d la = true ↔ ∃ it ∈ items, it.prod = p ∧ it.dot = d ∧ subsetB la it.la = true := by
  simp only [hasItem, List.any_eq_true, Bool.and_eq_true, beq_iff_eq, and_assoc]

theorem hasItem_mono {items : List VItem} {p d : Nat} {la la' : List Nat} (hsub : subsetB la la' = true)
    (h : hasItem items p d la' = true) : hasItem items p d la = true := by
  obtain ⟨it, hit, hp, hd, hs⟩ := hasItem_iff.mp h
  exact hasItem_iff.mpr ⟨it, hit, hp, hd, subsetB_iff.mpr fun a ha => subsetB_iff.mp hs a (subsetB_iff.mp hsub a ha)⟩

/-- `lrComplete g T I F = true` taken apart (`valid_of_lrComplete`); `hv` names either form. -/
structure Valid (g : Grammar) (T : Table) (I : Nat → List VItem) (F : FirstData) : Prop where
  closed : F.closed g = true
  n_pos : 0 < T.n
  prod0 : ∃ pr0, g.prod? 0 = some pr0 ∧ pr0.rhs = [.nt g.start, .t STOP]
  start : hasItem (I 0) 0 0 [] = true
  items : ∀ s, s < T.n → ∀ it ∈ I s, itemOK g T I F s it = true

theorem valid_of_lrComplete (h : lrComplete g T I F = true) : Valid g T I F := by
  simp only [lrComplete, Bool.and_eq_true, decide_eq_true_eq, List.all_eq_true, List.mem_range] at h
  obtain ⟨⟨⟨⟨h1, h2⟩, h3⟩, h4⟩, h5⟩ := h
  refine ⟨h1, h2, ?_, h4, h5⟩
  cases hp0 : g.prod? 0 with
  | none => rw [hp0] at h3; cases h3
  | some pr0 => rw [hp0] at h3; exact ⟨pr0, rfl, eq_of_beq h3⟩

/-- State `s` of the table holds the item `[p: α . γ, la']` with `la ⊆ la'`, `α` of length `d`. -/
structure ItemAt (g : Grammar) (T : Table) (I : Nat → List VItem) (s p d : Nat) (la : List Nat)
    (γ : List Sym) : Prop where
  lt : s < T.n
  has : hasItem (I s) p d la = true
  rest : ∃ pr, g.prod? p = some pr ∧ pr.rhs.drop d = γ

theorem ItemAt.cast {s s' p d d' : Nat} {la : List Nat} {γ : List Sym} (h : ItemAt g T I s p d la γ)
    (hs : s = s') (hd : d = d') : ItemAt g T I s' p d' la γ :=
  hs ▸ hd ▸ h

namespace Valid
variable (hv : Valid g T I F)
include hv

/-- `itemOK` read over `ItemAt`: what the table and the item sets hold for the item behind `h`, by
what follows its dot. -/
theorem item_spec {s p d : Nat} {la : List Nat} {γ : List Sym} : ItemAt g T I s p d la γ →
    match γ with
    | [] => ∀ a ∈ la, Action.reduce p ∈ T.actions s a
    | .t b :: γ => (b = STOP → Action.accept ∈ T.actions s STOP) ∧
        (b ≠ STOP → ∃ s', Action.shift s' ∈ T.actions s b ∧ ItemAt g T I s' p (d + 1) la γ)
    | .nt B :: γ =>
        (∀ q pq, g.prod? q = some pq → pq.lhs = B → ItemAt g T I s q 0 (firstSeq F γ la) pq.rhs) ∧
        ∃ s', T.goto s B = some s' ∧ ItemAt g T I s' p (d + 1) la γ := by
  intro h
  obtain ⟨it, hit, rfl, rfl, hs⟩ := hasItem_iff.mp h.has
  obtain ⟨pr, hpr, hdrop⟩ := h.rest
  have hget : pr.rhs[it.dot]? = γ.head? := hdrop ▸ List.head?_drop.symm
  have htail : pr.rhs.drop (it.dot + 1) = γ.tail := hdrop ▸ List.tail_drop.symm
  have adv : ∀ s', (decide (s' < T.n) && hasItem (I s') it.prod (it.dot + 1) it.la) = true →
      ItemAt g T I s' it.prod (it.dot + 1) la γ.tail := fun s' h' =>
    have h' := Bool.and_eq_true_iff.mp h'
    ⟨of_decide_eq_true h'.1, hasItem_mono hs h'.2, pr, hpr, htail⟩
  have hok := hv.items _ h.lt it hit
  simp only [itemOK, hpr, hget, htail] at hok
  cases γ with
  | nil =>
    simp only [List.head?_nil, List.all_eq_true, List.contains_eq_mem, decide_eq_true_eq] at hok
    exact fun a ha => hok a (subsetB_iff.mp hs a ha)
  | cons X γ =>
    simp only [List.head?_cons] at hok
    cases X with
    | t b =>
      constructor
      · intro hb
        simpa only [if_pos hb, List.contains_eq_mem, decide_eq_true_eq] using hok
      · intro hb
        simp only [if_neg hb, List.any_eq_true] at hok
        obtain ⟨act, hact, hcond⟩ := hok
        cases act with
        | shift s' => exact ⟨s', hact, adv s' hcond⟩
        | reduce _ => cases hcond
        | accept => cases hcond
    | nt B =>
      simp only [List.tail_cons, Bool.and_eq_true, List.all_eq_true, List.mem_range] at hok
      obtain ⟨hclos, hgoto⟩ := hok
      constructor
      · intro q pq hq hB
        have hcq := hclos q (List.getElem?_eq_some_iff.mp hq).1
        simp only [hq, hB, bne_self_eq_false, Bool.false_or] at hcq
        exact ⟨h.lt, hasItem_mono (firstSeq_mono γ hs) hcq, pq, hq, rfl⟩
      · cases hg : T.goto s B with
        | none => rw [hg] at hgoto; cases hgoto
        | some s' => rw [hg] at hgoto; exact ⟨s', rfl, adv s' hgoto⟩

end Valid

end Pg
