/-! List lemmas that are not about the model. -/
namespace Pg

theorem snoc_induction {α : Type} {P : List α → Prop} (nil : P [])
    (snoc : ∀ l a, P l → P (l ++ [a])) (l : List α) : P l := by
  suffices h : ∀ r : List α, P r.reverse by simpa only [List.reverse_reverse] using h l.reverse
  intro r
  induction r with
  | nil => exact nil
  | cons a r ih => rw [List.reverse_cons]; exact snoc _ _ ih

theorem getD_map {α β : Type} (f : α → β) (l : List α) (i : Nat) (d : α) :
    (l.map f).getD i (f d) = f (l.getD i d) := by
  simp only [List.getD_eq_getElem?_getD, List.getElem?_map, Option.getD_map]

theorem getD_snoc {α : Type} (l : List α) (x d : α) (i : Nat) :
    (l ++ [x]).getD i d = if i < l.length then l.getD i d else if i = l.length then x else d := by
  rw [List.getD_eq_getElem?_getD, List.getD_eq_getElem?_getD]
  by_cases h1 : i < l.length
  · rw [if_pos h1, List.getElem?_append_left h1]
  · rw [if_neg h1]
    by_cases h2 : i = l.length
    · rw [if_pos h2, h2, List.getElem?_concat_length]; rfl
    · rw [if_neg h2, List.getElem?_eq_none]; rfl
      rw [List.length_append, List.length_singleton]
      exact Nat.succ_le_of_lt (Nat.lt_of_le_of_ne (Nat.le_of_not_lt h1) (Ne.symm h2))

theorem getD_prop {α : Type} {P : α → Prop} {l : List α} {d : α} (h : ∀ x ∈ l, P x) (hd : P d)
    (i : Nat) : P (l.getD i d) := by
  rw [List.getD_eq_getElem?_getD]
  cases hx : l[i]? with
  | none => exact hd
  | some x => exact h x (List.mem_of_getElem? hx)

theorem getElem?_flatMap_const {α β : Type} (f : α → List β) (m : Nat) (hm : 0 < m)
    (h : ∀ x, (f x).length = m) (l : List α) (c : Nat) :
    (l.flatMap f)[c]? = l[c / m]?.bind fun x => (f x)[c % m]? := by
  induction l generalizing c with
  | nil => rfl
  | cons y ys ih =>
    rw [List.flatMap_cons]
    by_cases hlt : c < m
    · rw [Nat.div_eq_of_lt hlt, Nat.mod_eq_of_lt hlt, List.getElem?_append_left (h y ▸ hlt)]; rfl
    · have hge : m ≤ c := Nat.le_of_not_lt hlt
      rw [List.getElem?_append_right (h y ▸ hge), h, ih, Nat.div_eq_sub_div hm hge, Nat.mod_eq_sub_mod hge]; rfl

/-- Stated for any `f` with the two equations, so that each home-made index enumeration gets core's
`zipIdx` lemmas. -/
theorem enum_eq_zipIdx {α : Type} (f : Nat → List α → List (Nat × α)) (h0 : ∀ k, f k [] = [])
    (h1 : ∀ k x xs, f k (x :: xs) = (k, x) :: f (k + 1) xs) (l : List α) (k : Nat) :
    f k l = (l.zipIdx k).map fun p => (p.2, p.1) := by
  induction l generalizing k with
  | nil => exact h0 k
  | cons x xs ih => rw [h1, ih, List.zipIdx_cons, List.map_cons]

theorem mem_enum_iff {α : Type} (f : Nat → List α → List (Nat × α)) (h0 : ∀ k, f k [] = [])
    (h1 : ∀ k x xs, f k (x :: xs) = (k, x) :: f (k + 1) xs) (l : List α) (k0 k : Nat) (a : α) :
    (k, a) ∈ f k0 l ↔ k0 ≤ k ∧ l[k - k0]? = some a := by
  rw [enum_eq_zipIdx f h0 h1, List.mem_map]
  constructor
  · rintro ⟨⟨a', k'⟩, h, he⟩
    cases he
    exact List.mk_mem_zipIdx_iff_le_and_getElem?_sub.mp h
  · exact fun h => ⟨(a, k), List.mk_mem_zipIdx_iff_le_and_getElem?_sub.mpr h, rfl⟩

theorem singleton_of_mem {α : Type} {l : List α} {x : α} (h : x ∈ l) (hl : l.length ≤ 1) : l = [x] := by
  cases l with
  | nil => cases h
  | cons y ys =>
    cases ys with
    | nil => rw [List.mem_singleton.mp h]
    | cons z zs => exact absurd (Nat.le_of_succ_le_succ hl) (Nat.not_succ_le_zero _)

end Pg
