import PgVerif.Model.Actions
import PgVerif.Model.LR
/-!
The on-the-fly LR driver: `ConfigV` … `runV` are a second driver whose stack holds action
*results* instead of trees (`Parser._call_shift_action` / `_call_reduce_action` with
`build_tree=False`; each stack node keeps its `start_position`). It mirrors `Model/LR.lean`
definition for definition, with `Tree.eval` pushed through every constructor, and has to be
edited together with it. Proved (`runV_map`): started on `c.toV env`, `c` with every tree on
the stack evaluated, `runV` returns what `run` returns from `c` with the accepted tree
evaluated, for every table, input, action environment and fuel.
-/
namespace Pg

structure ConfigV where
  stack : List (Nat × Val × Nat)      -- state, result, start_position
  pos   : Nat
  la    : Option (Nat × Option Tok)

inductive OutcomeV where
  | ok (v : Val) (rawEnd p : Nat)
  | syntaxError (p : Nat)
  | disambError (p : Nat) (terms : List Nat)
  | crash
  | outOfFuel

inductive StepV where
  | next (c : ConfigV)
  | done (o : OutcomeV)

def topOfV (st : List (Nat × Val × Nat)) : Nat :=
  match st with
  | [] => 0
  | (s, _) :: _ => s

def ConfigV.top (c : ConfigV) : Nat := topOfV c.stack

def spanStartV (popped : List (Nat × Val × Nat)) (pos : Nat) : Nat :=
  match popped with
  | [] => pos
  | x :: _ => x.2.2

def doShiftV (env : ActEnv) (c : ConfigV) (p : Nat) (otok : Option Tok) (s' : Nat) : StepV :=
  match otok with
  | some tok =>
    if tok.term = STOP then .done .crash else
    .next { stack := (s', (if env.termUser tok.term then Val.tcall tok.term p (p + tok.len)
                            else Val.str tok.term p (p + tok.len)), p) :: c.stack,
            pos := p + tok.len, la := none }
  | none => .done .crash

def doReduceV (g : Grammar) (env : ActEnv) (T : Table) (c : ConfigV) (pid : Nat) : StepV :=
  match g.prod? pid with
  | none => .done .crash
  | some pr =>
    let n := pr.rhs.length
    if c.stack.length < n then .done .crash else
    let popped := (c.stack.take n).reverse
    let rest := c.stack.drop n
    let st := spanStartV popped c.pos
    match T.goto (topOfV rest) pr.lhs with
    | none => .done .crash
    | some s' => .next { c with stack := (s', applyProd env pid (popped.map (·.2.1)) st c.pos, st) :: rest }

def doAcceptV (c : ConfigV) (p : Nat) : StepV :=
  match c.stack.getLast? with
  | some (_, v, _) => .done (.ok v c.pos p)
  | none => .done .crash

def applyActionV (g : Grammar) (env : ActEnv) (T : Table) (c : ConfigV) (p : Nat) (otok : Option Tok) :
    Action → StepV
  | .shift s' => doShiftV env c p otok s'
  | .reduce pid => doReduceV g env T c pid
  | .accept => doAcceptV c p

def scanStepV (T : Table) (inp : Input) (cf : LRCfg) (c : ConfigV) : StepV :=
  let p := inp.skip c.pos
  match nextTokens T inp cf.consumeInput cf.lexDis c.top p with
  | [] => .next { c with la := some (p, none) }
  | [tok] => .next { c with la := some (p, some tok) }
  | toks => .done (.disambError p (toks.map (·.term)))

def stepV (g : Grammar) (env : ActEnv) (T : Table) (inp : Input) (cf : LRCfg) (c : ConfigV) : StepV :=
  match c.la with
  | none => scanStepV T inp cf c
  | some (p, otok) =>
    match cellFor T cf c.top otok with
    | [] => .done (.syntaxError p)
    | a0 :: rest =>
      match pickAction g a0 rest with
      | none => .done .crash
      | some a => applyActionV g env T c p otok a

def runV (g : Grammar) (env : ActEnv) (T : Table) (inp : Input) (cf : LRCfg) : Nat → ConfigV → OutcomeV
  | 0, _ => .outOfFuel
  | f + 1, c =>
    match stepV g env T inp cf c with
    | .next c' => runV g env T inp cf f c'
    | .done o => o

def entryV (env : ActEnv) (x : Nat × Tree) : Nat × Val × Nat := (x.1, x.2.eval env, x.2.start)

def Config.toV (env : ActEnv) (c : Config) : ConfigV :=
  { stack := c.stack.map (entryV env), pos := c.pos, la := c.la }

def Outcome.toV (env : ActEnv) : Outcome → OutcomeV
  | .ok t e p => .ok (t.eval env) e p
  | .syntaxError p => .syntaxError p
  | .disambError p ts => .disambError p ts
  | .crash => .crash
  | .outOfFuel => .outOfFuel

def Step.toV (env : ActEnv) : Step → StepV
  | .next c => .next (c.toV env)
  | .done o => .done (o.toV env)

variable {g : Grammar} {env : ActEnv} {T : Table} {inp : Input} {cf : LRCfg}

theorem topOfV_map (st : List (Nat × Tree)) : topOfV (st.map (entryV env)) = topOf st := by
  cases st with
  | nil => rfl
  | cons x xs => rfl

theorem top_toV (c : Config) : (c.toV env).top = c.top := topOfV_map c.stack

theorem evalL_eq_map : ∀ ts : List Tree, Tree.evalL env ts = ts.map (Tree.eval env) := by
  intro ts
  induction ts with
  | nil => rfl
  | cons t ts ih => rw [Tree.evalL, ih, List.map_cons]

theorem evalL_snd (l : List (Nat × Tree)) :
    (l.map (entryV env)).map (·.2.1) = Tree.evalL env (l.map (·.2)) := by
  rw [evalL_eq_map, List.map_map, List.map_map]; rfl

theorem Tree.eval_node (p s e : Nat) (cs : List Tree) :
    (Tree.node p s e cs).eval env = applyProd env p (Tree.evalL env cs) s e := rfl

theorem eval_builtin {p : Nat} {b : Builtin} (h : (env.prods.getD p default).kind = .builtin b)
    (s e : Nat) (cs : List Tree) :
    (Tree.node p s e cs).eval env = applyBuiltin b (Tree.evalL env cs) := by
  simp only [Tree.eval_node, applyProd, h]

theorem spanStartV_map (l : List (Nat × Tree)) (pos : Nat) :
    spanStartV (l.map (entryV env)) pos = spanStart (l.map (·.2)) pos := by
  cases l with
  | nil => rfl
  | cons x xs => rfl

theorem doShiftV_map (c : Config) (p : Nat) (otok : Option Tok) (s' : Nat) :
    doShiftV env (c.toV env) p otok s' = (doShift c p otok s').toV env := by
  cases otok with
  | none => rfl
  | some tok => rw [doShift, apply_ite (Step.toV env)]; rfl

theorem doReduceV_map (c : Config) (pid : Nat) :
    doReduceV g env T (c.toV env) pid = (doReduce g T c pid).toV env := by
  unfold doReduceV doReduce
  cases hp : g.prod? pid with
  | none => rfl
  | some pr =>
    simp only [Config.toV, List.length_map]
    split
    · rfl
    · rw [← List.map_take, ← List.map_drop, ← List.map_reverse, topOfV_map, spanStartV_map, evalL_snd]
      cases T.goto (topOf (List.drop pr.rhs.length c.stack)) pr.lhs with
      | none => rfl
      | some s' => rfl

theorem doAcceptV_map (c : Config) (p : Nat) :
    doAcceptV (c.toV env) p = (doAccept c p).toV env := by
  unfold doAcceptV doAccept
  simp only [Config.toV, List.getLast?_map]
  cases c.stack.getLast? with
  | none => rfl
  | some x => rfl

theorem stepV_map (c : Config) :
    stepV g env T inp cf (c.toV env) = (step g T inp cf c).toV env := by
  unfold stepV step
  rw [show (c.toV env).la = c.la from rfl, top_toV]
  cases c.la with
  | none =>
    dsimp only [scanStepV, scanStep]
    rw [top_toV, show (c.toV env).pos = c.pos from rfl]
    cases nextTokens T inp cf.consumeInput cf.lexDis c.top (inp.skip c.pos) with
    | nil => rfl
    | cons t ts => cases ts <;> rfl
  | some lap =>
    obtain ⟨p, otok⟩ := lap
    dsimp only
    cases cellFor T cf c.top otok with
    | nil => rfl
    | cons a0 rest =>
      dsimp only
      cases pickAction g a0 rest with
      | none => rfl
      | some a =>
        cases a with
        | shift s' => exact doShiftV_map c p otok s'
        | reduce pid => exact doReduceV_map c pid
        | accept => exact doAcceptV_map c p

theorem runV_map (fuel : Nat) (c : Config) :
    runV g env T inp cf fuel (c.toV env) = (run g T inp cf fuel c).toV env := by
  fun_induction run g T inp cf fuel c with
  | case1 => rfl
  | case2 f c c' hs ih => rw [runV, stepV_map, hs]; exact ih
  | case3 f c o hs => rw [runV, stepV_map, hs]; rfl

end Pg
