import PgVerif.Proofs.LRDet
/-!
Whatever runs a validated table finds every parse tree of the input, up to the spans of interior
nodes (`Follows.complete`). For that the LR machine of `Proofs/LRComplete.lean` is taken once more
with a tree per stack entry (`AStepT`, `Valid.reads`); `SimT` is `Sim` together with "the driver's
trees have the shapes of the machine's". So the nondeterministic automaton accepts every sentence
(`lr_complete`), and the deterministic driver returns a tree of the shape of *every* parse tree
(`det_complete_shape`): two parse trees of a lexically unambiguous input have one shape.
-/
namespace Pg
open LRV

/-- A tree with the spans of its interior nodes erased. -/
def Tree.shape : Tree → Tree
  | .leaf t s e => .leaf t s e
  | .node p _ _ cs => .node p 0 0 (shapeL cs)
where shapeL : List Tree → List Tree
  | [] => []
  | c :: cs => Tree.shape c :: shapeL cs

theorem shapeL_eq_map (cs : List Tree) : Tree.shape.shapeL cs = cs.map Tree.shape := by
  induction cs with
  | nil => rfl
  | cons c cs ih => rw [Tree.shape.shapeL, ih, List.map_cons]

theorem shape_node (p s e : Nat) (cs : List Tree) :
    (Tree.node p s e cs).shape = .node p 0 0 (cs.map Tree.shape) := by
  rw [Tree.shape, shapeL_eq_map]

variable {g : Grammar} {T : Table} {inp : Input} {I : Nat → List VItem} {F : FirstData}

def atopT (σ : List (Nat × Tree)) : Nat := atop (σ.map (·.1))

inductive AStepT (g : Grammar) (T : Table) :
    List (Nat × Tree) × List Tok → List (Nat × Tree) × List Tok → Prop where
  | shift (σ : List (Nat × Tree)) (tok : Tok) (w : List Tok) (s' : Nat) (ha : tok.term ≠ STOP)
      (h : Action.shift s' ∈ T.actions (atopT σ) tok.term) :
      AStepT g T (σ, tok :: w) ((s', .leaf tok.term tok.s (tok.s + tok.len)) :: σ, w)
  | reduce (σ : List (Nat × Tree)) (tok : Tok) (w : List Tok) (p : Nat) (pr : Prod) (s' : Nat)
      (h : Action.reduce p ∈ T.actions (atopT σ) tok.term) (hp : g.prod? p = some pr)
      (hlen : pr.rhs.length ≤ σ.length)
      (hg : T.goto (atopT (σ.drop pr.rhs.length)) pr.lhs = some s') :
      AStepT g T (σ, tok :: w)
        ((s', .node p 0 0 ((σ.take pr.rhs.length).reverse.map (·.2))) :: σ.drop pr.rhs.length, tok :: w)

inductive AStarT (g : Grammar) (T : Table) :
    List (Nat × Tree) × List Tok → List (Nat × Tree) × List Tok → Prop where
  | refl (x : List (Nat × Tree) × List Tok) : AStarT g T x x
  | head (x y z : List (Nat × Tree) × List Tok) (h : AStepT g T x y) (rest : AStarT g T y z) :
      AStarT g T x z

theorem AStarT.trans {x y z : List (Nat × Tree) × List Tok} (h1 : AStarT g T x y)
    (h2 : AStarT g T y z) : AStarT g T x z := by
  induction h1 with
  | refl _ => exact h2
  | head x y' _ hs _ ih => exact AStarT.head x y' z hs (ih h2)

theorem AStarT.single {x y : List (Nat × Tree) × List Tok} (h : AStepT g T x y) : AStarT g T x y :=
  AStarT.head x y y h (AStarT.refl y)

theorem atopT_append_singleton (σ' σ : List (Nat × Tree)) (x : Nat × Tree) :
    atopT (σ' ++ [x] ++ σ) = atopT (σ' ++ x :: σ) :=
  congrArg atopT (List.append_cons σ' x σ).symm

/-- `Valid.reads_plain` on the machine that builds trees: the trees it pushes are the derivation's,
up to the spans of interior nodes. -/
theorem Valid.reads (hv : Valid g T I F) {Xs : List Sym} {i j : Nat} {toks : List Tok} {ts : List Tree}
    (hd : DerT g inp Xs i j toks ts) :
    ∀ (σ : List (Nat × Tree)) (p d : Nat) (la : List Nat) (β : List Sym) (a : Tok) (w : List Tok),
      ItemAt g T I (atopT σ) p d la (Xs ++ β) → a.term ∈ firstSeq F β la →
      ∃ σ' : List (Nat × Tree), AStarT g T (σ, toks ++ a :: w) (σ' ++ σ, a :: w) ∧
        σ'.length = Xs.length ∧ σ'.reverse.map (fun x => x.2.shape) = ts.map Tree.shape ∧
        ItemAt g T I (atopT (σ' ++ σ)) p (d + Xs.length) la β := by
  induction hd with
  | nil i => intro σ p d la β a w h _; exact ⟨[], AStarT.refl _, rfl, rfl, h⟩
  | tok t i l j Xs toks ts hm hl hne _ ih =>
    intro σ p d la β a w h ha
    obtain ⟨s', hact, h'⟩ := (hv.item_spec h).2 hne
    obtain ⟨σ', hstar, hlen, hshape, hit⟩ :=
      ih ((s', .leaf t (inp.skip i) (inp.skip i + l)) :: σ) p (d + 1) la β a w h' ha
    refine ⟨σ' ++ [(s', .leaf t (inp.skip i) (inp.skip i + l))], ?_, ?_, ?_, ?_⟩
    · rw [List.append_assoc]
      exact AStarT.head _ _ _ (AStepT.shift σ ⟨t, inp.skip i, l⟩ (toks ++ a :: w) s' hne hact) hstar
    · rw [List.length_append, hlen]; rfl
    · rw [List.reverse_append, List.map_append, hshape]; rfl
    · exact hit.cast (congrArg atopT (List.append_cons σ' _ σ)) (Nat.add_right_comm d 1 Xs.length)
  | prod q pq i k j s e cs Xs u1 u2 ts hq h1 h2 ih1 ih2 =>
    intro σ p d la β a w h ha
    obtain ⟨hclos, s2, hg, h'⟩ := hv.item_spec h
    obtain ⟨b, w', hbw⟩ := List.exists_cons_of_ne_nil (List.append_ne_nil_of_right_ne_nil u2 (List.cons_ne_nil a w))
    have hbw' : u2.map (·.term) ++ a.term :: w.map (·.term) = b.term :: w'.map (·.term) := by
      have := congrArg (List.map (·.term)) hbw
      rwa [List.map_append] at this
    have hb : b.term ∈ firstSeq F (Xs ++ β) la :=
      der_next hv.closed (derT_der h2) β la a.term _ ha b.term _ hbw'
    -- the closure item stands before all of `pq.rhs`: `ih1` with nothing (`β = []`) behind it
    obtain ⟨σq, hstar1, hlen1, hshape1, hitq⟩ :=
      ih1 σ q 0 _ [] b w' ((List.append_nil pq.rhs).symm ▸ hclos q pq hq rfl) hb
    have hstep := AStepT.reduce (σq ++ σ) b w' q pq s2 (hv.item_spec hitq b.term hb) hq
      (by rw [List.length_append, hlen1]; exact Nat.le_add_right _ _)
      (by rw [← hlen1, List.drop_left]; exact hg)
    rw [← hlen1, List.drop_left, List.take_left] at hstep
    obtain ⟨σ', hstar2, hlen2, hshape2, hit⟩ :=
      ih2 ((s2, .node q 0 0 (σq.reverse.map (·.2))) :: σ) p (d + 1) la β a w h' ha
    refine ⟨σ' ++ [(s2, .node q 0 0 (σq.reverse.map (·.2)))], ?_, ?_, ?_, ?_⟩
    · rw [List.append_assoc, List.append_assoc, hbw]
      rw [hbw] at hstar2
      exact (hstar1.trans (AStarT.single hstep)).trans hstar2
    · rw [List.length_append, hlen2]; rfl
    · rw [List.reverse_append, List.map_append, hshape2]
      simp only [List.reverse_cons, List.reverse_nil, List.nil_append, List.map_cons, List.map_nil,
        List.singleton_append, shape_node, List.map_map, ← hshape1]
      rfl
    · exact hit.cast (congrArg atopT (List.append_cons σ' _ σ)) (Nat.add_right_comm d 1 Xs.length)

/-- `Valid.reads` with the items named, as `lemmaA` is `Valid.reads_plain`. -/
theorem lemmaA_T (hv : Valid g T I F) {Xs : List Sym} {i j : Nat} {toks : List Tok} {ts : List Tree}
    (hd : DerT g inp Xs i j toks ts) :
    ∀ (σ : List (Nat × Tree)) (it : VItem) (pr : Prod) (β : List Sym) (a : Tok) (w : List Tok),
      atopT σ < T.n → it ∈ I (atopT σ) → g.prod? it.prod = some pr →
      pr.rhs.drop it.dot = Xs ++ β → a.term ∈ firstSeq F β it.la →
      ∃ (σ' : List (Nat × Tree)) (it' : VItem), AStarT g T (σ, toks ++ a :: w) (σ' ++ σ, a :: w) ∧
        σ'.length = Xs.length ∧ σ'.reverse.map (fun x => x.2.shape) = ts.map Tree.shape ∧
        atopT (σ' ++ σ) < T.n ∧ it' ∈ I (atopT (σ' ++ σ)) ∧
        it'.prod = it.prod ∧ it'.dot = it.dot + Xs.length ∧ subsetB it.la it'.la = true := by
  intro σ it pr β a w hs hit hpr hdrop ha
  obtain ⟨σ', hstar, hlen, hshape, hlt, hhas, _⟩ := hv.reads hd σ it.prod it.dot it.la β a w
    ⟨hs, hasItem_iff.mpr ⟨it, hit, rfl, rfl, subsetB_refl _⟩, pr, hpr, hdrop⟩ ha
  obtain ⟨it', hit', hrest⟩ := hasItem_iff.mp hhas
  exact ⟨σ', it', hstar, hlen, hshape, hlt, hit', hrest⟩

theorem abstract_complete_T (hv : Valid g T I F) {e : Nat} {toks : List Tok} {t : Tree}
    (hd : DerT g inp [.nt g.start] 0 e toks [t]) (stop : Tok) (hstop : stop.term = STOP) :
    ∃ (s1 : Nat) (tr : Tree), AStarT g T ([], toks ++ [stop]) ([(s1, tr)], [stop]) ∧
      tr.shape = t.shape ∧ Action.accept ∈ T.actions s1 STOP := by
  obtain ⟨pr0, hp0, hrhs0⟩ := hv.prod0
  obtain ⟨σ', hstar, hlen, hshape, hit⟩ := hv.reads hd [] 0 0 [] [.t STOP] stop []
    ⟨hv.n_pos, hv.start, pr0, hp0, hrhs0⟩ (List.mem_singleton.mpr hstop)
  obtain ⟨⟨s1, tr⟩, rfl⟩ := List.length_eq_one_iff.mp hlen
  exact ⟨s1, tr, hstar, (List.cons.inj hshape).1, (hv.item_spec hit).1 rfl⟩

structure SimT (inp : Input) (c : Config) (σ : List (Nat × Tree)) (toks : List Tok) (e : Nat) : Prop where
  sim : Sim inp c (σ.map (·.1)) toks e
  shapes : c.stack.map (fun x => x.2.shape) = σ.map (fun x => x.2.shape)

/-- The machine with trees runs on `Tok`s, so its final `STOP` needs a position: `stopTok inp e`. -/
theorem Follows.step_T {R : Config → Config → Prop} (D : Follows g T inp R)
    {x y : List (Nat × Tree) × List Tok} (h : AStepT g T x y) :
    ∀ (c : Config) (toks : List Tok) (e : Nat), SimT inp c x.1 toks e →
      toks ++ [stopTok inp e] = x.2 →
      ∃ (c' : Config) (toks' : List Tok), R c c' ∧ SimT inp c' y.1 toks' e ∧
        toks' ++ [stopTok inp e] = y.2 := by
  intro c toks e hs hw
  cases h with
  | shift σ tok w s' ha hact =>
    cases toks with
    | nil => obtain ⟨rfl, -⟩ := List.cons.inj hw; exact absurd rfl ha
    | cons tok0 rest =>
      obtain ⟨rfl, rfl⟩ := List.cons.inj hw
      exact ⟨_, rest, D.shift (tok := tok0) hs.sim.states hs.sim.la hs.sim.edge ha hact,
        ⟨hs.sim.shift s' _, congrArg (Tree.leaf tok0.term tok0.s (tok0.s + tok0.len) :: ·) hs.shapes⟩, rfl⟩
  | reduce σ tok w q pq s' hact hq hlen hg =>
    obtain rfl : nextTok inp toks e = tok := by
      cases toks with
      | nil => exact (List.cons.inj hw).1
      | cons t0 rest => exact (List.cons.inj hw).1
    have hsh : c.stack.map (fun x => x.2.shape) = σ.map (fun x => x.2.shape) := hs.shapes
    have hsim := hs.sim.reduce s' (.node q (spanStart ((c.stack.take pq.rhs.length).reverse.map (·.2)) c.pos)
      c.pos ((c.stack.take pq.rhs.length).reverse.map (·.2))) pq.rhs.length
    rw [← List.map_drop] at hsim
    refine ⟨_, toks, D.reduce hs.sim.states hs.sim.la hs.sim.edge hact hq
      (by rw [List.length_map]; exact hlen) (by rw [← List.map_drop]; exact hg), ⟨hsim, ?_⟩, hw⟩
    simp only [List.map_cons, shape_node, List.map_map, List.map_reverse, List.map_drop, List.map_take,
      Function.comp_def, hsh]

theorem Follows.star_T {R : Config → Config → Prop} (D : Follows g T inp R)
    {x y : List (Nat × Tree) × List Tok} (h : AStarT g T x y) :
    ∀ (c : Config) (toks : List Tok) (e : Nat), SimT inp c x.1 toks e →
      toks ++ [stopTok inp e] = x.2 →
      ∃ (c' : Config) (toks' : List Tok), R c c' ∧ SimT inp c' y.1 toks' e ∧
        toks' ++ [stopTok inp e] = y.2 := by
  induction h with
  | refl x => exact fun c toks e hs hw => ⟨c, toks, D.refl c, hs, hw⟩
  | head x y z hstep _ ih =>
    intro c toks e hs hw
    obtain ⟨c1, toks1, h1, hs1, hw1⟩ := D.step_T hstep c toks e hs hw
    obtain ⟨c2, toks2, h2, hs2, hw2⟩ := ih c1 toks1 e hs1 hw1
    exact ⟨c2, toks2, D.trans h1 h2, hs2, hw2⟩

/-- Whatever way the validated table is run, for every parse tree of the input a configuration is
reached whose stack is one tree of the same shape, with `STOP` scanned and the accept action,
which returns that tree, in its cell. -/
theorem Follows.complete {R : Config → Config → Prop} (D : Follows g T inp R)
    (hv : Valid g T I F) (hin : InputOK inp) {t : Tree} (h : IsParseOf g inp t) :
    ∃ (c : Config) (p : Nat) (tok : Tok) (tr : Tree), R Config.init c ∧ c.la = some (p, some tok) ∧
      Action.accept ∈ T.actions c.top tok.term ∧
      applyAction g T c p (some tok) .accept = .done (.ok tr c.pos p) ∧ tr.shape = t.shape := by
  obtain ⟨e, hder0, hfin⟩ := h
  obtain ⟨toks, hder⟩ := derT_of_derivesSeq hin hder0
  obtain ⟨s1, tr, hstar, hshape, hacc⟩ := abstract_complete_T hv hder (stopTok inp e) rfl
  obtain ⟨c, toks1, hR, hs, hw⟩ := D.star_T hstar Config.init toks e
    ⟨⟨rfl, derT_path hder, hfin, Or.inl rfl⟩, rfl⟩ rfl
  obtain rfl : toks1 = [] := List.append_left_eq_self.mp hw
  have hacc' : Action.accept ∈ T.actions c.top (stopTok inp e).term := by
    rw [top_eq_atop, hs.sim.states]; exact hacc
  -- the stack is one entry, as the abstract one is
  obtain ⟨⟨s, tr2⟩, hc, -⟩ := List.map_eq_singleton_iff.mp hs.sim.states
  have hsh := hs.shapes
  rw [hc] at hsh
  exact ⟨_, _, _, tr2, D.trans hR (D.scanned hs.sim.la hs.sim.edge hacc'), rfl, hacc',
    applyAction_accept g T _ _ _ (congrArg List.getLast? hc), (List.cons.inj hsh).1.trans hshape⟩

theorem det_step_T (hd : DetOK T inp) (hin : InputOK inp) (cf : LRCfg) (hcf : cf.consumeInput = true)
    {x y : List (Nat × Tree) × List Tok} (h : AStepT g T x y) :
    ∀ (c : Config) (toks : List Tok) (e : Nat), SimT inp c x.1 toks e →
      toks ++ [stopTok inp e] = x.2 →
      ∃ (c' : Config) (toks' : List Tok) (n : Nat), stepsTo g T inp cf n c c' ∧ SimT inp c' y.1 toks' e ∧
        toks' ++ [stopTok inp e] = y.2 := by
  intro c toks e hs hw
  obtain ⟨c', toks', ⟨n, hn⟩, h'⟩ := (Follows.det hd hin cf hcf).step_T h c toks e hs hw
  exact ⟨c', toks', n, hn, h'⟩

/-- **Completeness of validated tables**: every sentence, of every input that is `InputOK`, has an
accepting run of the nondeterministic LR automaton. -/
theorem lr_complete (hv : lrComplete g T I F = true) (hin : InputOK inp)
    (t : Tree) (h : IsParseOf g inp t) :
    ∃ (c : Config) (t' : Tree) (e p : Nat), Reach g T inp c ∧ NStep g T inp c (.done (.ok t' e p)) := by
  obtain ⟨c, p, tok, tr, hR, hla, hacc, happ, _⟩ := Follows.nd.complete (valid_of_lrComplete hv) hin h
  exact ⟨c, tr, c.pos, p, hR Reach.init, happ ▸ NStep.act c p tok .accept hla hacc⟩

theorem det_complete_shape (hv : lrComplete g T I F = true) (hd : DetOK T inp) (hin : InputOK inp)
    (cf : LRCfg) (hcf : cf.consumeInput = true) (t : Tree) (h : IsParseOf g inp t) :
    ∃ (fuel : Nat) (t' : Tree) (e p : Nat), parseLR g T inp cf fuel = .ok t' e p ∧ t'.shape = t.shape := by
  obtain ⟨c, p, tok, tr, ⟨n, hn⟩, hla, hacc, happ, hshape⟩ :=
    (Follows.det hd hin cf hcf).complete (valid_of_lrComplete hv) hin h
  have hstep := (step_act (g := g) hd cf c p tok .accept hla hacc).trans happ
  exact ⟨n + 1, tr, c.pos, p, by rw [parseLR, run_stepsTo n _ c hn 1]; simp only [run, hstep], hshape⟩

theorem det_complete (hv : lrComplete g T I F = true)
    (hd : DetOK T inp) (hin : InputOK inp) (cf : LRCfg) (hcf : cf.consumeInput = true)
    (h : Sentence g inp) :
    ∃ (fuel : Nat) (t : Tree) (e p : Nat), parseLR g T inp cf fuel = .ok t e p := by
  obtain ⟨t, ht⟩ := h
  obtain ⟨fuel, t', e, p, hp, _⟩ := det_complete_shape hv hd hin cf hcf t ht
  exact ⟨fuel, t', e, p, hp⟩

theorem run_mono (cf : LRCfg) : ∀ (fuel k : Nat) (c : Config) (t : Tree) (e p : Nat),
    run g T inp cf fuel c = .ok t e p → run g T inp cf (fuel + k) c = .ok t e p :=
  fun fuel k c _ _ _ => run_mono_of_ne cf fuel k c _ Outcome.noConfusion

theorem unambiguous (hv : lrComplete g T I F = true) (hd : DetOK T inp) (hin : InputOK inp)
    (t1 t2 : Tree) (h1 : IsParseOf g inp t1) (h2 : IsParseOf g inp t2) : t1.shape = t2.shape := by
  obtain ⟨f1, t1', e1, p1, hr1, hs1⟩ := det_complete_shape hv hd hin {} rfl t1 h1
  obtain ⟨f2, t2', e2, p2, hr2, hs2⟩ := det_complete_shape hv hd hin {} rfl t2 h2
  unfold parseLR at hr1 hr2
  have a := run_mono (g := g) (T := T) (inp := inp) {} f1 f2 Config.init t1' e1 p1 hr1
  have b := run_mono (g := g) (T := T) (inp := inp) {} f2 f1 Config.init t2' e2 p2 hr2
  rw [Nat.add_comm f2 f1] at b
  rw [a] at b
  simp only [Outcome.ok.injEq] at b
  rw [← hs1, ← hs2, b.1]

end Pg
