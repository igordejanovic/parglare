import PgVerif.Model.LR
/-!
What one step of the LR driver model does, said once: a proof about `step` splits into
scan / shift / reduce / accept / error by `step_cases` without unfolding the driver, and a
statement about `run` comes down to one about its last step (`run_final`).
-/
namespace Pg

variable {g : Grammar} {T : Table} {inp : Input} {cf : LRCfg}

/-- Mirrors `doShift`/`doReduce`/`doAccept` of `Model/LR.lean` branch by branch (to be edited with
them). A reduction changes neither `pos` nor `la`. -/
inductive ActCase (g : Grammar) (T : Table) (c : Config) (p : Nat) :
    Option Tok → Action → Step → Prop where
  | shift (tok : Tok) (s' : Nat) (hne : tok.term ≠ STOP) :
      ActCase g T c p (some tok) (.shift s')
        (.next { stack := (s', .leaf tok.term p (p + tok.len)) :: c.stack,
                 pos := p + tok.len, la := none })
  | reduce (otok : Option Tok) (pid : Nat) (pr : Prod) (popped rest : List (Nat × Tree))
      (cs : List Tree) (s' : Nat) (hpr : g.prod? pid = some pr) (hstack : c.stack = popped ++ rest)
      (hlen : popped.length = pr.rhs.length) (hcs : cs = popped.reverse.map (·.2))
      (hgoto : T.goto (topOf rest) pr.lhs = some s') :
      ActCase g T c p otok (.reduce pid)
        (.next { c with stack := (s', .node pid (spanStart cs c.pos) c.pos cs) :: rest })
  | accept (otok : Option Tok) (s : Nat) (t : Tree) (hlast : c.stack.getLast? = some (s, t)) :
      ActCase g T c p otok .accept (.done (.ok t c.pos p))
  | crash (otok : Option Tok) (a : Action) : ActCase g T c p otok a (.done .crash)

theorem applyAction_cases (g : Grammar) (T : Table) (c : Config) (p : Nat) (otok : Option Tok)
    (a : Action) : ActCase g T c p otok a (applyAction g T c p otok a) := by
  cases a with
  | shift s' =>
    show ActCase g T c p otok (.shift s') (doShift c p otok s')
    fun_cases doShift c p otok s'
    next => exact .crash _ _
    next tok hne => exact .shift tok s' hne
    next => exact .crash _ _
  | reduce pid =>
    show ActCase g T c p otok (.reduce pid) (doReduce g T c pid)
    fun_cases doReduce g T c pid
    next => exact .crash _ _
    next => exact .crash _ _
    next => exact .crash _ _
    next pr hpr n hlen popped rest cs s' hgoto =>
      exact .reduce otok pid pr popped rest cs s' hpr (List.take_append_drop n c.stack).symm
        (List.length_take_of_le (Nat.le_of_not_lt hlen)) rfl hgoto
  | accept =>
    show ActCase g T c p otok .accept (doAccept c p)
    fun_cases doAccept c p
    next s t hlast => exact .accept otok s t hlast
    next => exact .crash _ _

theorem applyAction_shift (g : Grammar) (T : Table) (c : Config) (p : Nat) {tok : Tok} (s' : Nat)
    (hne : tok.term ≠ STOP) :
    applyAction g T c p (some tok) (.shift s') =
      .next { stack := (s', .leaf tok.term p (p + tok.len)) :: c.stack, pos := p + tok.len, la := none } := by
  simp only [applyAction, doShift, if_neg hne]

theorem applyAction_reduce (T : Table) (c : Config) (p : Nat) (otok : Option Tok) {pid s' : Nat}
    {pr : Prod} (hpr : g.prod? pid = some pr) (hlen : pr.rhs.length ≤ c.stack.length)
    (hgoto : T.goto (topOf (c.stack.drop pr.rhs.length)) pr.lhs = some s') :
    applyAction g T c p otok (.reduce pid) =
      .next { c with stack := (s', .node pid
        (spanStart ((c.stack.take pr.rhs.length).reverse.map (·.2)) c.pos) c.pos
        ((c.stack.take pr.rhs.length).reverse.map (·.2))) :: c.stack.drop pr.rhs.length } := by
  simp only [applyAction, doReduce, hpr, if_neg (Nat.not_lt.mpr hlen), hgoto]

theorem applyAction_accept (g : Grammar) (T : Table) (c : Config) (p : Nat) (otok : Option Tok)
    {s : Nat} {t : Tree} (hlast : c.stack.getLast? = some (s, t)) :
    applyAction g T c p otok .accept = .done (.ok t c.pos p) := by
  simp only [applyAction, doAccept, hlast]

/-- Mirrors `scanStep`/`step` of `Model/LR.lean`. In `act` the cell is that of a terminal `x` of
the top state: the lookahead's, or STOP when `consume_input` is off. -/
inductive StepCase (g : Grammar) (T : Table) (inp : Input) (cf : LRCfg) (c : Config) : Step → Prop where
  | scan (otok : Option Tok) (hla : c.la = none)
      (htok : ∀ tok, otok = some tok →
        tok ∈ nextTokens T inp cf.consumeInput cf.lexDis c.top (inp.skip c.pos)) :
      StepCase g T inp cf c (.next { c with la := some (inp.skip c.pos, otok) })
  | disamb (ts : List Nat) (hla : c.la = none) :
      StepCase g T inp cf c (.done (.disambError (inp.skip c.pos) ts))
  | syntaxError (p : Nat) (otok : Option Tok) (hla : c.la = some (p, otok))
      (hcell : cellFor T cf c.top otok = []) : StepCase g T inp cf c (.done (.syntaxError p))
  | crash : StepCase g T inp cf c (.done .crash)
  | act (p : Nat) (otok : Option Tok) (x : Nat) (a : Action) (r : Step) (hla : c.la = some (p, otok))
      (hx : a ∈ T.actions c.top x)
      (hxo : (∃ tok, otok = some tok ∧ x = tok.term) ∨ (x = STOP ∧ cf.consumeInput = false))
      (hr : ActCase g T c p otok a r) : StepCase g T inp cf c r

theorem mem_cellFor {s : Nat} {otok : Option Tok} {a : Action} (h : a ∈ cellFor T cf s otok) :
    ∃ x, a ∈ T.actions s x ∧
      ((∃ tok, otok = some tok ∧ x = tok.term) ∨ (x = STOP ∧ cf.consumeInput = false)) := by
  revert h
  fun_cases cellFor T cf s otok
  next acts0 hc =>
    exact fun h => ⟨STOP, h, .inr ⟨rfl, Bool.not_eq_true' _ ▸ ((Bool.and_eq_true _ _).mp hc).2⟩⟩
  next acts0 _ =>
    intro h
    cases otok with
    | none => exact (List.not_mem_nil h).elim
    | some tok => exact ⟨tok.term, h, .inl ⟨tok, rfl, rfl⟩⟩

theorem pickAction_mem {a0 : Action} {rest : List Action} {a : Action}
    (h : pickAction g a0 rest = some a) : a ∈ a0 :: rest := by
  revert h
  fun_cases pickAction g a0 rest
  -- an empty reduction followed by a reduction: the silent switch to the second action
  next => rintro ⟨rfl⟩; exact List.mem_cons_of_mem _ List.mem_cons_self
  next => nofun
  next => rintro ⟨rfl⟩; exact List.mem_cons_self
  next => nofun
  next => rintro ⟨rfl⟩; exact List.mem_cons_self

/-- Takes the equation so that `cases step_cases h`, with `h : step … = .next c'` (or `.done o`),
keeps only the constructors with such a result. -/
theorem step_cases {c : Config} {r : Step} (h : step g T inp cf c = r) :
    StepCase g T inp cf c r := by
  subst h
  fun_cases step g T inp cf c
  next hla =>
    fun_cases scanStep T inp cf c
    next => exact .scan none hla nofun
    next p tok htoks =>
      exact .scan (some tok) hla (fun _ h => by cases h; rw [htoks]; exact List.mem_singleton_self _)
    next => exact .disamb _ hla
  next p otok hla hcell => exact .syntaxError p otok hla hcell
  next => exact .crash
  next p otok hla a0 rest hcell a hpick =>
    obtain ⟨x, hx, hxo⟩ := mem_cellFor (hcell ▸ pickAction_mem hpick)
    exact .act p otok x a _ hla hx hxo (applyAction_cases g T c p otok a)

theorem step_scan {c : Config} {tok : Tok} (hla : c.la = none)
    (h : nextTokens T inp cf.consumeInput cf.lexDis c.top (inp.skip c.pos) = [tok]) :
    step g T inp cf c = .next { c with la := some (inp.skip c.pos, some tok) } := by
  simp only [step, hla, scanStep, h]

theorem step_act_of {c : Config} {p : Nat} {otok : Option Tok} {a0 a : Action} {rest : List Action}
    (hla : c.la = some (p, otok)) (hcell : cellFor T cf c.top otok = a0 :: rest)
    (hpick : pickAction g a0 rest = some a) : step g T inp cf c = applyAction g T c p otok a := by
  simp only [step, hla, hcell, hpick]

theorem run_final {P : Config → Prop}
    (hnext : ∀ c c', P c → step g T inp cf c = .next c' → P c')
    (fuel : Nat) (c : Config) {o : Outcome} (hc : P c) (h : run g T inp cf fuel c = o) (ho : o ≠ .outOfFuel) :
    ∃ c', P c' ∧ step g T inp cf c' = .done o := by
  fun_induction run g T inp cf fuel c with
  | case1 => exact absurd h.symm ho
  | case2 f c c' hs ih => exact ih (hnext c c' hc hs) h
  | case3 f c o' hs => exact ⟨c, hc, h ▸ hs⟩

end Pg
