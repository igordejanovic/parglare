import PgVerif.Proofs.GLRInv

/-!
`_find_lookaheads` keeps the invariant. It moves a head over layout, gives a head without token its
first one and clones it for every further token; each time a node comes to stand where one stood that
agrees with it on state, position up to layout and links, so the graph `Grows` and the heads collected
per token symbol stay right (`HeadsOK`).
-/

namespace Pg
namespace GLR

variable {g : Grammar} {T : Table} {inp : Input}

def HeadsOK (inp : Input) (s : GState) (P : Nat) (ps : List (Nat × List (Nat × Nat))) : Prop :=
  ∀ e ∈ ps, ∀ h ∈ e.2, h.2 < s.nodes.size ∧ (s.node h.2).st = h.1 ∧ inp.skip (s.node h.2).pos = P ∧
    (s.node h.2).tok.isSome = true

theorem HeadsOK.grows {s s' : GState} {P : Nat} {ps : List (Nat × List (Nat × Nat))} (h : HeadsOK inp s P ps)
    (hu : Grows inp s s') : HeadsOK inp s' P ps := by
  intro e he x hx
  obtain ⟨d1, d2, d3, d4⟩ := h e he x hx
  obtain ⟨a1, a2, a3, a4⟩ := hu.head d1 d3 d4
  exact ⟨a1, a2.trans d2, a3, a4⟩

/-- `psUpd`, `laInner`: copies of the two inner lambdas of `findLookaheads` (Model/GLR.lean), innermost
first; they unify with them by unfolding; edit together. -/
def psUpd (ps : List (Nat × List (Nat × Nat))) (term st c : Nat) : List (Nat × List (Nat × Nat)) :=
  match ps.find? (fun e => e.1 == term) with
  | some _ => ps.map (fun e => if e.1 == term then
      (e.1, if e.2.any (fun h => h.1 == st)
            then e.2.map (fun h => if h.1 == st then (st, c) else h)
            else e.2 ++ [(st, c)]) else e)
  | none => ps ++ [(term, [(st, c)])]

theorem mem_psUpd (ps : List (Nat × List (Nat × Nat))) (term st c : Nat) :
    ∀ e' ∈ psUpd ps term st c, ∀ h ∈ e'.2, h = (st, c) ∨ ∃ e ∈ ps, h ∈ e.2 := by
  intro e' he' h hh
  unfold psUpd at he'
  cases hf : ps.find? (fun e => e.1 == term) with
  | none =>
    simp only [hf] at he'
    rcases List.mem_append.mp he' with he' | he'
    · exact Or.inr ⟨e', he', hh⟩
    · obtain rfl := List.mem_singleton.mp he'
      exact Or.inl (List.mem_singleton.mp hh)
  | some _ =>
    simp only [hf] at he'
    obtain ⟨e, he, rfl⟩ := List.mem_map.mp he'
    by_cases h1 : (e.1 == term) = true
    · rw [if_pos h1] at hh
      by_cases h2 : e.2.any (fun h => h.1 == st) = true
      · rw [if_pos h2] at hh
        obtain ⟨h0, hh0, rfl⟩ := List.mem_map.mp hh
        by_cases h3 : (h0.1 == st) = true
        · rw [if_pos h3]; exact Or.inl rfl
        · rw [if_neg h3]; exact Or.inr ⟨e, he, hh0⟩
      · rw [if_neg h2] at hh
        exact (List.mem_append.mp hh).symm.imp List.mem_singleton.mp fun hh => ⟨e, he, hh⟩
    · rw [if_neg h1] at hh
      exact Or.inr ⟨e, he, hh⟩

def laInner (st : Nat) (a : GState × Nat × List (Nat × List (Nat × Nat))) (tok : Tok) :
    GState × Nat × List (Nat × List (Nat × Nat)) :=
  let (sc, cur, ps) := a
  let C := sc.node cur
  let (sd, cur') := match C.tok with
    | none => ({ sc with nodes := sc.nodes.setIfInBounds cur { C with tok := some tok } }, cur)
    | some t0 =>
      if tokEq (some t0) (some tok) then (sc, cur)
      else ({ sc with nodes := sc.nodes.push { C with tok := some tok } }, sc.nodes.size)
  (sd, cur', psUpd ps tok.term st cur')

structure LaInv (g : Grammar) (T : Table) (inp : Input) (consume : Bool) (s0 : GState) (P st : Nat)
    (a : GState × Nat × List (Nat × List (Nat × Nat))) : Prop where
  inv : GInv g T inp consume a.1
  grows : Grows inp s0 a.1
  cur : a.2.1 < a.1.nodes.size
  st : (a.1.node a.2.1).st = st
  pos : (a.1.node a.2.1).pos = P
  heads : HeadsOK inp a.1 P a.2.2

theorem laInner_ok {consume : Bool} {s0 : GState} {P st : Nat}
    (a : GState × Nat × List (Nat × List (Nat × Nat))) (tok : Tok)
    (ha : LaInv g T inp consume s0 P st a) (htok : TokOK inp consume P tok) :
    LaInv g T inp consume s0 P st (laInner st a tok) := by
  obtain ⟨sc, cur, ps⟩ := a
  obtain ⟨hinv, hgrow, hcur, hst, hpos, hheads⟩ := ha
  simp only at hinv hgrow hcur hst hpos hheads
  -- the node that carries `tok`: the current one with the token set, or its clone
  have hxok : NodeOK g T inp consume { sc.node cur with tok := some tok } := by
    refine ⟨(hinv.nodes cur hcur).reach, fun t ht => ?_⟩
    cases ht
    show TokOK inp consume (sc.node cur).pos tok
    rw [hpos]; exact htok
  -- `sd.node c` enters as a variable `x`: at the uses it is a struct update of `sc.node cur`, the facts `rfl`
  have enter : ∀ (sd : GState) (c : Nat) (x : GNode),
      GInv g T inp consume sd ∧ Grows inp sc sd ∧ sd.node c = x → c < sd.nodes.size →
      x.st = (sc.node cur).st ∧ x.pos = (sc.node cur).pos ∧ x.tok.isSome = true →
      LaInv g T inp consume s0 P st (sd, c, psUpd ps tok.term st c) := by
    intro sd c x ⟨q1, q2, hx⟩ q3 ⟨q4, q5, q6⟩
    subst hx
    refine ⟨q1, hgrow.trans q2, q3, q4.trans hst, q5.trans hpos, ?_⟩
    intro e' he' h hh
    rcases mem_psUpd ps tok.term st c e' he' h hh with rfl | ⟨e, he, hh'⟩
    · exact ⟨q3, q4.trans hst, by rw [q5, hpos]; exact htok.2.2.2, q6⟩
    · exact (hheads.grows q2) e he h hh'
  simp only [laInner]
  cases hct : (sc.node cur).tok with
  | none =>
    simp only
    exact enter _ cur _ (setNode_ok hinv hcur (x := { sc.node cur with tok := some tok }) rfl rfl rfl
        (by rw [hct]; nofun) hxok rfl rfl ⟨rfl, rfl, rfl, rfl, rfl⟩)
      (by simp only [Array.size_setIfInBounds]; exact hcur) ⟨rfl, rfl, rfl⟩
  | some t0 =>
    simp only
    by_cases hte : tokEq (some t0) (some tok) = true
    · simp only [if_pos hte]
      exact enter sc cur _ ⟨hinv, (Ext.refl sc).grows, rfl⟩ hcur ⟨rfl, rfl, by rw [hct]; rfl⟩
    · simp only [if_neg hte]
      have r := pushNode_ok hinv hxok (fun l hl => ⟨cur, hcur, hl, rfl, rfl⟩)
        (s1 := { sc with nodes := _ }) rfl rfl ⟨rfl, rfl, rfl, rfl, rfl⟩
      exact enter _ sc.nodes.size _ ⟨r.1, r.2.1.grows, r.2.2.1⟩ r.2.2.2 ⟨rfl, rfl, rfl⟩

theorem findLookaheads_ok (hidem : ∀ p, inp.skip (inp.skip p) = inp.skip p) {consume lexDis : Bool} {P : Nat}
    (hP : inp.skip P = P) (s : GState) (hinv : GInv g T inp consume s)
    (hpos : ∀ x ∈ s.active, inp.skip (s.node x.2).pos = P) :
    GInv g T inp consume (findLookaheads T inp consume lexDis s).1 ∧
      HeadsOK inp (findLookaheads T inp consume lexDis s).1 P (findLookaheads T inp consume lexDis s).2 ∧
      (findLookaheads T inp consume lexDis s).1.crash = s.crash := by
  unfold findLookaheads
  generalize hr : List.foldl _ _ _ = r
  have hb : Ext s { s with active := [] } := Ext.of_graph_eq rfl rfl rfl
  have h0 : GInv g T inp consume r.1 ∧ HeadsOK inp r.1 P r.2 ∧ Grows inp s r.1 := by
    refine hr ▸ List.foldlRecOn (motive := fun (acc : GState × List (Nat × List (Nat × Nat))) =>
        GInv g T inp consume acc.1 ∧ HeadsOK inp acc.1 P acc.2 ∧ Grows inp s acc.1) _ _
      ⟨hinv.graph_eq rfl rfl nofun hinv.forActor hinv.forShifter hinv.accepted, nofun,
        hb.grows⟩ ?_
    rintro ⟨sa, perSym⟩ ⟨h1, h2, h3⟩ ⟨st, node⟩ hx
    dsimp only at h1 h2 h3 ⊢
    generalize hq : List.foldl _ _ _ = q
    have hx := List.mem_reverse.mp hx
    obtain ⟨d1, d2⟩ := hinv.active _ hx
    obtain ⟨a1, a2⟩ := h3.nd _ d1
    have hlt := Nat.lt_of_lt_of_le d1 h3.size
    have hxpos : inp.skip (sa.node node).pos = P := a2.trans (hpos _ hx)
    have hN := h1.nodes node hlt
    -- the head moved over layout
    have r := setNode_ok h1 hlt (x := { sa.node node with pos := inp.skip (sa.node node).pos }) rfl (hidem _)
      rfl (fun _ h => h)
      ⟨by obtain ⟨st0, r0, a1, a2, a3⟩ := hN.reach; exact ⟨st0, r0, a1, a2, a3.trans (hidem _).symm⟩,
       fun t ht => by obtain ⟨b1, b2, b3, b4⟩ := hN.tok t ht; exact ⟨b1.trans (hidem _).symm, b2, b3, hidem _⟩⟩
      (s1 := { sa with nodes := _ }) rfl rfl ⟨rfl, rfl, rfl, rfl, rfl⟩
    -- what the scanner finds there are token edges at `P`
    have htoks : ∀ t ∈ (nextTokens T inp consume lexDis st (inp.skip (sa.node node).pos)).reverse,
        TokOK inp consume P t := by
      intro t ht
      have := nextTokens_ok (T := T) (inp := inp) ⟨consume, lexDis⟩ st _ t (List.mem_reverse.mp ht)
      rw [hxpos] at this
      obtain ⟨h1, h2, h3⟩ := this
      exact ⟨h1.trans hP.symm, fun hne => by rw [h1]; exact h2 hne, fun he hc => by rw [h1]; exact h3 he hc, hP⟩
    have hla : LaInv g T inp consume s P st (_, node, perSym) :=
      ⟨r.1, h3.trans r.2.1, Nat.lt_of_lt_of_le hlt r.2.1.size, by rw [r.2.2]; exact a1.trans d2,
        by rw [r.2.2]; exact hxpos, h2.grows r.2.1⟩
    have : LaInv g T inp consume s P st q := hq ▸ List.foldlRecOn (motive := LaInv g T inp consume s P st) _
      (laInner st) hla (fun b hb t ht => laInner_ok b t hb (htoks t ht))
    exact ⟨this.inv, this.heads, this.grows⟩
  exact ⟨h0.1, h0.2.1, h0.2.2.crash⟩

end GLR
end Pg
