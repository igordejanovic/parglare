import PgVerif.Spec.LexRules
import PgVerif.Proofs.Lex
/-!
The scanner's shortcuts equal the documented, order-free rule set. `scanSpec` describes the scan
with the order but without the shortcuts. For an expected list sorted as `sort_state_actions`
sorts it and flagged as `calc_finish_flags` flags it, the loop computes `scanSpec`; over a sorted
list that is the top-priority candidates, cut after a string-like first one; and when matching
string-like terminals of one priority come in strictly decreasing length, disambiguating it is
R1–R5 on the candidates.
-/
namespace Pg

variable (T : Table) (inp : Input) (strLike : Nat → Bool) (p : Nat)

def candOf (x : Nat × Bool) : Option Tok :=
  match inp.matchAt x.1 p with
  | some l => some ⟨x.1, p, l⟩
  | none => none

/-- Priorities never increase; inside a priority group string-like terminals come first. -/
def LexSorted : List (Nat × Bool) → Prop
  | [] => True
  | x :: rest =>
    (∀ y ∈ rest, T.prior y.1 ≤ T.prior x.1 ∧
      (T.prior y.1 = T.prior x.1 → strLike y.1 = true → strLike x.1 = true)) ∧ LexSorted rest

/-- Finish flags consistent with `calc_finish_flags`: set for every string-like
terminal; otherwise set only where the next terminal has lower priority. -/
def FlagsOK : List (Nat × Bool) → Prop
  | [] => True
  | x :: rest =>
    (strLike x.1 = true → x.2 = true) ∧
    (x.2 = true → strLike x.1 = true ∨ (∃ y ys, rest = y :: ys ∧ T.prior y.1 < T.prior x.1)) ∧
    FlagsOK rest

/-- Matches of the leading run of priority `pr`, up to the first string-like match. -/
def groupScan (pr : Nat) : List (Nat × Bool) → List Tok
  | [] => []
  | x :: rest =>
    if T.prior x.1 ≠ pr then [] else
    match inp.matchAt x.1 p with
    | some l => if strLike x.1 then [⟨x.1, p, l⟩] else ⟨x.1, p, l⟩ :: groupScan pr rest
    | none => groupScan pr rest

def scanSpec : List (Nat × Bool) → List Tok
  | [] => []
  | x :: rest =>
    match inp.matchAt x.1 p with
    | some _ => groupScan T inp strLike p (T.prior x.1) (x :: rest)
    | none => scanSpec rest

/-- R4 and R5 on a list. `maxBy` is the largest *value* of its function on the list (0 on the
empty list), not a token. -/
def rule45 (c3 : List Tok) : List Tok :=
  let L := maxBy (·.len) c3
  let c4 := c3.filter (fun t => t.len == L)
  if c4.any (fun t => T.prefer t.term) then c4.filter (fun t => T.prefer t.term) else c4

/-- Matching string-like terminals of one priority come in strictly decreasing
match length (sorted by length; no two match the same text). -/
def StrDecreasing : List (Nat × Bool) → Prop
  | [] => True
  | x :: rest =>
    (∀ y ∈ rest, strLike x.1 = true → strLike y.1 = true → T.prior y.1 = T.prior x.1 →
      ∀ lx ly, inp.matchAt x.1 p = some lx → inp.matchAt y.1 p = some ly → ly < lx) ∧
    StrDecreasing rest

def cands (l : List (Nat × Bool)) : List Tok := l.filterMap (candOf inp p)

def inGroup (pr : Nat) (l : List (Nat × Bool)) : List Tok :=
  (cands inp p l).filter (fun t => T.prior t.term == pr)

/-! Executable versions of the hypotheses, run on the implementation's tables. -/

def lexSortedB : List (Nat × Bool) → Bool
  | [] => true
  | x :: rest =>
    rest.all (fun y => decide (T.prior y.1 ≤ T.prior x.1) &&
      (!(decide (T.prior y.1 = T.prior x.1)) || !(strLike y.1) || strLike x.1)) && lexSortedB rest

def flagsOKB : List (Nat × Bool) → Bool
  | [] => true
  | x :: rest =>
    (!(strLike x.1) || x.2) &&
    (!x.2 || strLike x.1 || (match rest with
      | [] => false
      | y :: _ => decide (T.prior y.1 < T.prior x.1))) &&
    flagsOKB rest

def strDecB : List (Nat × Bool) → Bool
  | [] => true
  | x :: rest =>
    rest.all (fun y =>
      !(strLike x.1) || !(strLike y.1) || !(decide (T.prior y.1 = T.prior x.1)) ||
      (match inp.matchAt x.1 p, inp.matchAt y.1 p with
       | some lx, some ly => decide (ly < lx)
       | _, _ => true)) && strDecB rest

/-! Parameters that hypotheses determine are implicit, except `T` in the `rule45` lemmas and in
`recognize_sub`/`recognize_sub_cands` (other modules pass it); the results cited from C07 and by the
check commands take `T inp strLike p` explicitly. -/

section
variable {T inp strLike p}

/-- At a matching terminal the finish flag says what `groupScan` asks: string-like, or
nothing of this priority follows. -/
theorem groupScan_fin {a : Nat} {f : Bool} {rest : List (Nat × Bool)}
    (hf : FlagsOK T strLike ((a, f) :: rest)) (tok : Tok) :
    (if strLike a then [tok] else tok :: groupScan T inp strLike p (T.prior a) rest) =
      if f then [tok] else tok :: groupScan T inp strLike p (T.prior a) rest := by
  obtain ⟨h1, h2, -⟩ := hf
  cases hs : strLike a
  · cases f
    · rfl
    · rcases h2 rfl with h | ⟨y, ys, rfl, hlow⟩
      · exact absurd (hs ▸ h) Bool.false_ne_true
      · rw [groupScan, if_pos (Nat.ne_of_lt hlow)]; rfl
  · obtain rfl : f = true := h1 hs
    rfl

section
variable {a len : Nat} {f : Bool} {rest : List (Nat × Bool)}

theorem groupScan_cons_some (hm : inp.matchAt a p = some len) :
    groupScan T inp strLike p (T.prior a) ((a, f) :: rest) =
      if strLike a then [⟨a, p, len⟩] else ⟨a, p, len⟩ :: groupScan T inp strLike p (T.prior a) rest := by
  rw [groupScan, if_neg (fun h => h rfl), hm]

theorem groupScan_cons_none (hm : inp.matchAt a p = none) :
    groupScan T inp strLike p (T.prior a) ((a, f) :: rest) = groupScan T inp strLike p (T.prior a) rest := by
  rw [groupScan, if_neg (fun h => h rfl), hm]

end

/-- The loop invariant inside a group: `hacc` says something has matched, `pr` is the running
`last_prior`, and `hle` is what pins `T.prior a = pr` wherever the loop goes on. -/
theorem recognize_group (l : List (Nat × Bool)) (pr : Nat) (acc : List Tok) (hacc : acc.isEmpty = false)
    (hs : LexSorted T strLike l) (hf : FlagsOK T strLike l) (hle : ∀ y ∈ l, T.prior y.1 ≤ pr) :
    recognize T inp p l pr acc = acc.reverse ++ groupScan T inp strLike p pr l := by
  -- where the loop goes on with something matched, the terminal has the running priority
  have on {a pr : Nat} {acc : List Tok} (hacc : acc.isEmpty = false) (hle : T.prior a ≤ pr)
      (h : ¬(decide (T.prior a < pr) && !acc.isEmpty) = true) : T.prior a = pr := by
    rw [hacc, Bool.not_false, Bool.and_true, decide_eq_true_eq] at h
    exact Nat.le_antisymm hle (Nat.le_of_not_lt h)
  fun_induction recognize T inp p l pr acc with
  | case1 pr acc => rw [groupScan, List.append_nil]
  | case2 a fin rest pr acc h =>
    rw [Bool.and_eq_true, decide_eq_true_eq] at h
    rw [groupScan, if_pos (Nat.ne_of_lt h.1), List.append_nil]
  | case3 a rest pr acc h len hm =>
    obtain rfl := on hacc (hle _ List.mem_cons_self) h
    rw [groupScan_cons_some hm, groupScan_fin hf, if_pos rfl, List.reverse_cons]
  | case4 a fin rest pr acc h len hm hfin ih =>
    obtain rfl := on hacc (hle _ List.mem_cons_self) h
    rw [groupScan_cons_some hm, groupScan_fin hf, if_neg hfin,
      ih rfl hs.2 hf.2.2 (fun y hy => (hs.1 y hy).1), List.reverse_cons, List.append_assoc]
    rfl
  | case5 a fin rest pr acc h hm ih =>
    obtain rfl := on hacc (hle _ List.mem_cons_self) h
    rw [groupScan_cons_none hm]
    exact ih hacc hs.2 hf.2.2 (fun y hy => (hs.1 y hy).1)

end

theorem recognize_eq_scanSpec :
    ∀ (l : List (Nat × Bool)) (last : Nat), LexSorted T strLike l → FlagsOK T strLike l →
      recognize T inp p l last [] = scanSpec T inp strLike p l := by
  intro l
  induction l with
  | nil => intro _ _ _; rfl
  | cons x rest ih =>
    intro last hs hf
    obtain ⟨a, f⟩ := x
    rw [recognize, if_neg (by rw [List.isEmpty_nil, Bool.not_true, Bool.and_false]; exact Bool.false_ne_true),
      scanSpec]
    cases hm : inp.matchAt a p with
    | none => exact ih _ hs.2 hf.2.2
    | some len =>
      -- `scanSpec` at a match is `groupScan` of the match's own priority (the `match` reduces)
      show _ = groupScan T inp strLike p (T.prior a) ((a, f) :: rest)
      rw [groupScan_cons_some hm, groupScan_fin hf]
      cases f with
      | true => rfl
      | false =>
        exact recognize_group rest _ _ rfl hs.2 hf.2.2 (fun y hy => (hs.1 y hy).1)

theorem maxBy_eq (f : Tok → Nat) (l : List Tok) : maxBy f l = (l.map f).max?.getD 0 := by
  rw [maxBy, ← List.foldl_map, List.foldl_max, Nat.zero_max]

theorem maxBy_cons (f : Tok → Nat) (t : Tok) (l : List Tok) :
    maxBy f (t :: l) = max (f t) (maxBy f l) := by
  rw [maxBy_eq, maxBy_eq, List.map_cons, List.max?_cons]
  cases (l.map f).max? with
  | none => exact (Nat.max_zero _).symm
  | some _ => rfl

theorem le_maxBy {f : Tok → Nat} {l : List Tok} {u : Tok} (h : u ∈ l) : f u ≤ maxBy f l :=
  maxBy_eq f l ▸ List.le_max?_getD_of_mem (List.mem_map_of_mem h)

theorem maxBy_le {f : Tok → Nat} {l : List Tok} {m : Nat} (h : ∀ u ∈ l, f u ≤ m) :
    maxBy f l ≤ m :=
  List.foldlRecOn (motive := (· ≤ m)) l _ (Nat.zero_le m) (fun _ hb a ha => Nat.max_le.mpr ⟨hb, h a ha⟩)

theorem maxBy_head (f : Tok → Nat) (t : Tok) (l : List Tok) (h : ∀ u ∈ l, f u ≤ f t) :
    maxBy f (t :: l) = f t := by
  rw [maxBy_cons]; exact Nat.max_eq_left (maxBy_le h)

theorem pref_singleton {α} (q : α → Bool) (y : α) :
    (if [y].any q = true then [y].filter q else [y]) = [y] := by
  rw [List.any_cons, List.filter_cons]
  cases q y <;> rfl

theorem mem_pref {α} {q : α → Bool} {L : List α} {x : α} :
    x ∈ (if L.any q = true then L.filter q else L) ↔ x ∈ L ∧ (L.any q = true → q x = true) := by
  by_cases h : L.any q = true
  · rw [if_pos h, List.mem_filter]; exact and_congr_right fun _ => ⟨fun hq _ => hq, fun hq => hq h⟩
  · rw [if_neg h]; exact ⟨fun hx => ⟨hx, fun h' => absurd h' h⟩, And.left⟩

theorem mem_rule45 {R : List Tok} {t : Tok} (h : t ∈ rule45 T R) :
    t ∈ R ∧ t.len = maxBy (·.len) R :=
  (List.mem_filter.mp (mem_pref.mp h).1).imp_right beq_iff_eq.mp

theorem rule45_prefer {R : List Tok} {t : Tok} (ht : t ∈ rule45 T R)
    (hp : T.prefer t.term = true) : ∀ u ∈ rule45 T R, T.prefer u.term = true :=
  fun _ hu => (mem_pref.mp hu).2 (List.any_eq_true.mpr ⟨t, (mem_pref.mp ht).1, hp⟩)

theorem rule45_cons_of_lt {t : Tok} {R : List Tok} (h : t.len < maxBy (·.len) R) :
    rule45 T (t :: R) = rule45 T R := by
  simp only [rule45]
  rw [maxBy_cons, Nat.max_eq_right (Nat.le_of_lt h),
    List.filter_cons_of_neg (by exact fun e => Nat.ne_of_lt h (beq_iff_eq.mp e))]

theorem rule45_cons_of_gt {t : Tok} {R : List Tok} (h : ∀ u ∈ R, u.len < t.len) :
    rule45 T (t :: R) = [t] := by
  have hc4 : (t :: R).filter (fun u => u.len == maxBy (·.len) (t :: R)) = [t] := by
    rw [maxBy_head _ t R (fun u hu => Nat.le_of_lt (h u hu)), List.filter_cons_of_pos (by exact beq_iff_eq.mpr rfl),
      List.filter_eq_nil_iff.mpr (fun u hu e => Nat.ne_of_lt (h u hu) (beq_iff_eq.mp e))]
  simp only [rule45]
  rw [hc4]
  exact pref_singleton _ t

/-- `lexDisamb`'s end (a single longest token decides, else prefer) is "the preferred ones, if
any": a single token is returned either way. -/
theorem tail45 {α} (q : α → Bool) : ∀ L : List α,
    (if (L.length == 1) = true then L else if (L.filter q).isEmpty = true then L else L.filter q) =
      if L.any q = true then L.filter q else L
  | [] => rfl
  | [y] => (pref_singleton q y).symm
  | y :: z :: L => by
    rw [if_neg (c := ((y :: z :: L).length == 1) = true)
      (fun h => Nat.succ_ne_zero _ (Nat.succ.inj (beq_iff_eq.mp h)))]
    cases hany : (y :: z :: L).any q
    · rw [List.filter_eq_nil_iff.mpr (List.any_eq_false.mp hany)]; rfl
    · obtain ⟨a, ha, hq⟩ := List.any_eq_true.mp hany
      rw [if_neg (fun h => List.ne_nil_of_mem (List.mem_filter.mpr ⟨ha, hq⟩) (List.isEmpty_iff.mp h))]
      rfl

/-- `_lexical_disambiguation` is exactly longest match then `prefer`. -/
theorem lexDisamb_eq_rule45 (R : List Tok) : lexDisamb T R = rule45 T R :=
  match R with
  | [] => rfl
  | [x] => (rule45_cons_of_gt T (fun _ h => (List.not_mem_nil h).elim)).symm
  | x :: y :: R => by
    rw [lexDisamb, if_neg (c := (x :: y :: R).length ≤ 1)
      (fun h => Nat.not_succ_le_zero _ (Nat.le_of_succ_le_succ h))]
    exact tail45 _ _

section
variable {inp p}

theorem cands_cons_none {x : Nat × Bool} (rest : List (Nat × Bool)) (hm : inp.matchAt x.1 p = none) :
    cands inp p (x :: rest) = cands inp p rest :=
  List.filterMap_cons_none (by rw [candOf, hm])

theorem cands_cons_some {x : Nat × Bool} {len : Nat} (rest : List (Nat × Bool))
    (hm : inp.matchAt x.1 p = some len) :
    cands inp p (x :: rest) = ⟨x.1, p, len⟩ :: cands inp p rest :=
  List.filterMap_cons_some (by rw [candOf, hm])

theorem mem_cands {l : List (Nat × Bool)} {u : Tok} (h : u ∈ cands inp p l) :
    ∃ y ∈ l, ∃ len, inp.matchAt y.1 p = some len ∧ u = ⟨y.1, p, len⟩ := by
  obtain ⟨y, hy, hc⟩ := List.mem_filterMap.mp h
  refine ⟨y, hy, ?_⟩
  rw [candOf] at hc
  cases hm : inp.matchAt y.1 p with
  | none => rw [hm] at hc; cases hc
  | some len => rw [hm] at hc; exact ⟨len, rfl, (Option.some.inj hc).symm⟩

theorem cands_pos {l : List (Nat × Bool)} {u : Tok} (hu : u ∈ cands inp p l) : 0 < u.len := by
  obtain ⟨y, _, len, hm, rfl⟩ := mem_cands hu
  exact (Input.matchAt_eq_some.mp hm).2.2

variable (inp p) in
theorem recognize_sub (l : List (Nat × Bool)) (last : Nat) (acc : List Tok) :
    ∃ r, recognize T inp p l last acc = acc.reverse ++ r ∧ r.Sublist (cands inp p l) := by
  fun_induction recognize T inp p l last acc with
  | case1 last acc => exact ⟨[], (List.append_nil _).symm, .slnil⟩
  | case2 a fin rest last acc h => exact ⟨[], (List.append_nil _).symm, List.nil_sublist _⟩
  | case3 a rest last acc h len hm =>
    rw [cands_cons_some (x := (a, true)) rest hm]
    exact ⟨[⟨a, p, len⟩], List.reverse_cons, (List.nil_sublist _).cons_cons _⟩
  | case4 a fin rest last acc h len hm hfin ih =>
    rw [cands_cons_some (x := (a, fin)) rest hm]
    obtain ⟨r, hr, hsub⟩ := ih
    refine ⟨⟨a, p, len⟩ :: r, ?_, hsub.cons_cons _⟩
    rw [hr, List.reverse_cons, List.append_assoc]; rfl
  | case5 a fin rest last acc h hm ih =>
    rw [cands_cons_none (x := (a, fin)) rest hm]; exact ih

theorem recognize_sub_cands (l : List (Nat × Bool)) (last : Nat) (acc : List Tok) :
    ∀ t ∈ recognize T inp p l last acc, t ∈ acc ∨ t ∈ cands inp p l := by
  obtain ⟨r, hr, hsub⟩ := recognize_sub T inp p l last acc
  intro t ht
  rw [hr] at ht
  exact (List.mem_append.mp ht).imp List.mem_reverse.mp (hsub.subset ·)

end

section
variable {T inp strLike p}

theorem topPriority_cons {x : Nat × Bool} {rest : List (Nat × Bool)} (len : Nat)
    (hle : ∀ y ∈ rest, T.prior y.1 ≤ T.prior x.1) :
    topPriority T (⟨x.1, p, len⟩ :: cands inp p rest) =
      ⟨x.1, p, len⟩ :: inGroup T inp p (T.prior x.1) rest := by
  have hP : maxBy (fun t => T.prior t.term) (⟨x.1, p, len⟩ :: cands inp p rest) = T.prior x.1 :=
    maxBy_head _ _ _ (fun u hu => by
      obtain ⟨y, hy, _, _, rfl⟩ := mem_cands hu
      exact hle y hy)
  rw [topPriority, hP, List.filter_cons_of_pos (by exact beq_iff_eq.mpr rfl)]; rfl

theorem groupScan_eq_inGroup (pr : Nat) (l : List (Nat × Bool)) (hs : LexSorted T strLike l)
    (hle : ∀ y ∈ l, T.prior y.1 ≤ pr) (hno : ∀ y ∈ l, T.prior y.1 = pr → strLike y.1 = false) :
    groupScan T inp strLike p pr l = inGroup T inp p pr l := by
  fun_induction groupScan T inp strLike p pr l with
  | case1 => rfl
  | case2 x rest hpr =>
    -- everything from here on has lower priority
    refine (List.filter_eq_nil_iff.mpr fun u hu => ?_).symm
    obtain ⟨y, hy, _, _, rfl⟩ := mem_cands hu
    have hy' : T.prior y.1 ≤ T.prior x.1 := by
      rcases List.mem_cons.mp hy with rfl | hy
      · exact Nat.le_refl _
      · exact (hs.1 y hy).1
    exact fun h => hpr (Nat.le_antisymm (hle x List.mem_cons_self) (beq_iff_eq.mp h ▸ hy'))
  | case3 x rest hpr len hm hstr =>
    rw [hno x List.mem_cons_self (Decidable.not_not.mp hpr)] at hstr
    cases hstr
  | case4 x rest hpr len hm hstr ih =>
    rw [inGroup, cands_cons_some rest hm,
      List.filter_cons_of_pos (by exact beq_iff_eq.mpr (Decidable.not_not.mp hpr)),
      ih hs.2 (List.forall_mem_cons.mp hle).2 (List.forall_mem_cons.mp hno).2]
    rfl
  | case5 x rest hpr hm ih =>
    rw [inGroup, cands_cons_none rest hm]
    exact ih hs.2 (List.forall_mem_cons.mp hle).2 (List.forall_mem_cons.mp hno).2

theorem scanSpec_eq_top (l : List (Nat × Bool)) (hs : LexSorted T strLike l) :
    scanSpec T inp strLike p l =
      if (topPriority T (cands inp p l)).any (fun t => strLike t.term)
      then ((topPriority T (cands inp p l)).filter (fun t => strLike t.term)).take 1
      else topPriority T (cands inp p l) := by
  fun_induction scanSpec T inp strLike p l with
  | case1 => rfl
  | case2 x rest len hm =>
    have hle : ∀ y ∈ rest, T.prior y.1 ≤ T.prior x.1 := fun y hy => (hs.1 y hy).1
    rw [cands_cons_some rest hm, topPriority_cons len hle, groupScan, if_neg (fun h => h rfl),
      hm, List.any_cons, List.filter_cons]
    cases hstr : strLike x.1
    · -- no string-like terminal in the group at all
      have hno : ∀ y ∈ rest, T.prior y.1 = T.prior x.1 → strLike y.1 = false := fun y hy hp =>
        Bool.eq_false_iff.mpr (fun h => Bool.false_ne_true (hstr ▸ (hs.1 y hy).2 hp h))
      have hany : (inGroup T inp p (T.prior x.1) rest).any (fun t => strLike t.term) = false := by
        refine List.any_eq_false.mpr (fun u hu => ?_)
        obtain ⟨hu1, hu2⟩ := List.mem_filter.mp hu
        obtain ⟨y, hy, _, _, rfl⟩ := mem_cands hu1
        exact Bool.eq_false_iff.mp (hno y hy (beq_iff_eq.mp hu2))
      rw [hany, groupScan_eq_inGroup _ rest hs.2 hle hno]; rfl
    · rfl
  | case3 x rest hm ih => rw [cands_cons_none rest hm]; exact ih hs.2

theorem strGroup_head_longest (P : Nat) (l : List (Nat × Bool)) (hd : StrDecreasing T inp strLike p l)
    (s : Tok) (more : List Tok)
    (h : (cands inp p l).filter (fun t => strLike t.term && T.prior t.term == P) = s :: more) :
    ∀ u ∈ more, u.len < s.len := by
  induction l with
  | nil => cases h
  | cons x rest ih =>
    cases hm : inp.matchAt x.1 p with
    | none => exact ih hd.2 (cands_cons_none rest hm ▸ h)
    | some len =>
      rw [cands_cons_some rest hm] at h
      by_cases hx : (strLike x.1 && T.prior x.1 == P) = true
      · rw [List.filter_cons_of_pos (by exact hx)] at h
        obtain ⟨rfl, rfl⟩ := List.cons.inj h
        intro u hu
        obtain ⟨hu1, hu2⟩ := List.mem_filter.mp hu
        obtain ⟨y, hy, ly, hmy, rfl⟩ := mem_cands hu1
        rw [Bool.and_eq_true, beq_iff_eq] at hx hu2
        exact hd.1 y hy hx.1 hu2.1 (hu2.2.trans hx.2.symm) len ly hm hmy
      · rw [List.filter_cons_of_neg (by exact hx)] at h
        exact ih hd.2 h

theorem scanSpec_ne_nil (l : List (Nat × Bool)) (h : cands inp p l ≠ []) :
    scanSpec T inp strLike p l ≠ [] := by
  fun_induction scanSpec T inp strLike p l with
  | case1 => exact h
  | case2 x rest len hm =>
    rw [groupScan, if_neg (fun h => h rfl), hm]
    cases strLike x.1 <;> exact List.cons_ne_nil _ _
  | case3 x rest hm ih => exact ih (cands_cons_none rest hm ▸ h)

theorem lexSorted_weaken : ∀ l, LexSorted T strLike l → LexSorted T (fun _ => false) l := by
  intro l
  induction l with
  | nil => intro _; trivial
  | cons x rest ih =>
    intro h
    exact ⟨fun y hy => ⟨(h.1 y hy).1, fun _ hc => by cases hc⟩, ih h.2⟩

theorem lexRules_eq (C : List Tok) : lexRules T strLike C =
    rule45 T (if (topPriority T C).any (fun t => strLike t.term)
      then (topPriority T C).filter (fun t => strLike t.term) else topPriority T C) := rfl

end

theorem scanSpec_rules :
    ∀ l : List (Nat × Bool), LexSorted T strLike l → StrDecreasing T inp strLike p l →
      lexDisamb T (scanSpec T inp strLike p l) = lexRules T strLike (cands inp p l) := by
  intro l hs hd
  rw [lexDisamb_eq_rule45, scanSpec_eq_top l hs, lexRules_eq]
  split
  · -- R3 keeps the string-like ones; the first is strictly the longest
    cases h : (topPriority T (cands inp p l)).filter (fun t => strLike t.term) with
    | nil => rfl
    | cons s more =>
      rw [topPriority, List.filter_filter] at h
      rw [rule45_cons_of_gt T (strGroup_head_longest _ l hd s more h)]
      exact rule45_cons_of_gt T (fun _ h => (List.not_mem_nil h).elim)
  · rfl

/-- The scanner, shortcuts and all, computes R1–R5. -/
theorem scan_eq_rules (l : List (Nat × Bool)) (last : Nat)
    (hs : LexSorted T strLike l) (hf : FlagsOK T strLike l) (hd : StrDecreasing T inp strLike p l) :
    lexDisamb T (recognize T inp p l last []) = lexRules T strLike (cands inp p l) := by
  rw [recognize_eq_scanSpec T inp strLike p l last hs hf]
  exact scanSpec_rules T inp strLike p l hs hd

theorem lexSortedB_sound : ∀ l, lexSortedB T strLike l = true → LexSorted T strLike l := by
  intro l
  induction l with
  | nil => intro _; trivial
  | cons x rest ih =>
    intro h
    rw [lexSortedB, Bool.and_eq_true, List.all_eq_true] at h
    refine ⟨fun y hy => ?_, ih h.2⟩
    have := h.1 y hy
    rw [Bool.and_eq_true, decide_eq_true_eq] at this
    refine ⟨this.1, fun heq hstr => ?_⟩
    have h2 := this.2
    rw [decide_eq_true heq, hstr] at h2
    exact h2

theorem flagsOKB_sound : ∀ l, flagsOKB T strLike l = true → FlagsOK T strLike l := by
  intro l
  induction l with
  | nil => intro _; trivial
  | cons x rest ih =>
    intro h
    simp only [flagsOKB, Bool.and_eq_true] at h
    refine ⟨fun hs => ?_, fun hf => ?_, ih h.2⟩
    · have := h.1.1
      rw [hs] at this
      exact this
    · have := h.1.2
      rw [hf] at this
      rcases (Bool.or_eq_true _ _).mp this with h2 | h2
      · exact Or.inl h2
      · cases rest with
        | nil => cases h2
        | cons y ys => exact Or.inr ⟨y, ys, rfl, of_decide_eq_true h2⟩

theorem strDecB_sound : ∀ l, strDecB T inp strLike p l = true → StrDecreasing T inp strLike p l := by
  intro l
  induction l with
  | nil => intro _; trivial
  | cons x rest ih =>
    intro h
    rw [strDecB, Bool.and_eq_true, List.all_eq_true] at h
    refine ⟨fun y hy hsx hsy hpr lx ly hmx hmy => ?_, ih h.2⟩
    have := h.1 y hy
    rw [hsx, hsy, decide_eq_true hpr, hmx, hmy] at this
    exact of_decide_eq_true this

theorem scan_nolex_eq_top (l : List (Nat × Bool)) (last : Nat)
    (hs : LexSorted T strLike l) (hf : ∀ x ∈ l, x.2 = false) :
    recognize T inp p l last [] = topPriority T (cands inp p l) := by
  have hs0 := lexSorted_weaken l hs
  have hf0 : FlagsOK T (fun _ => false) l := by
    clear hs hs0
    induction l with
    | nil => trivial
    | cons x rest ih =>
      exact ⟨fun h => Bool.noConfusion h, fun h => Bool.noConfusion ((hf x List.mem_cons_self).symm.trans h),
        ih (fun y hy => hf y (List.mem_cons_of_mem _ hy))⟩
  rw [recognize_eq_scanSpec T inp (fun _ => false) p l last hs0 hf0, scanSpec_eq_top l hs0,
    if_neg (by rw [List.any_eq_true]; exact fun ⟨_, _, h⟩ => Bool.false_ne_true h)]

/-! STOP next to real tokens: a real token is always longer than STOP's empty match. -/

theorem rule45_stop (R : List Tok) (hne : R ≠ []) (hpos : ∀ u ∈ R, 0 < u.len) (pos : Nat) :
    rule45 T (⟨STOP, pos, 0⟩ :: R) = rule45 T R := by
  obtain ⟨x, hx⟩ := List.exists_mem_of_ne_nil R hne
  exact rule45_cons_of_lt T (Nat.lt_of_lt_of_le (hpos x hx) (le_maxBy hx))

theorem scan_stop_eq_rules (stop : Bool) (l : List (Nat × Bool)) (last : Nat)
    (hs : LexSorted T strLike l) (hf : FlagsOK T strLike l) (hd : StrDecreasing T inp strLike p l) :
    lexDisamb T ((if stop then [⟨STOP, p, 0⟩] else []) ++ recognize T inp p l last []) =
      if stop = true ∧ cands inp p l = [] then [⟨STOP, p, 0⟩]
      else lexRules T strLike (cands inp p l) := by
  have hmain := scan_eq_rules T inp strLike p l last hs hf hd
  cases stop with
  | false =>
    rw [if_neg Bool.false_ne_true, List.nil_append, if_neg (fun h => Bool.false_ne_true h.1)]
    exact hmain
  | true =>
    rw [if_pos rfl, List.singleton_append]
    by_cases hc : cands inp p l = []
    · have : recognize T inp p l last [] = [] :=
        List.eq_nil_iff_forall_not_mem.mpr fun t ht =>
          (recognize_sub_cands T l last [] t ht).elim (List.not_mem_nil ·) (fun h => List.not_mem_nil (hc ▸ h))
      rw [if_pos ⟨rfl, hc⟩, this]; rfl
    · have hne : recognize T inp p l last [] ≠ [] :=
        recognize_eq_scanSpec T inp strLike p l last hs hf ▸ scanSpec_ne_nil l hc
      have hpos : ∀ u ∈ recognize T inp p l last [], 0 < u.len := fun u hu =>
        (recognize_sub_cands T l last [] u hu).elim (fun h => (List.not_mem_nil h).elim) cands_pos
      rw [if_neg (fun h => hc h.2), lexDisamb_eq_rule45, rule45_stop T _ hne hpos p, ← lexDisamb_eq_rule45]
      exact hmain

end Pg
