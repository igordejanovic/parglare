import PgVerif.Proofs.LRDet
import PgVerif.Proofs.Pos
/-!
**Not early.** If the deterministic driver (validated, conflict-free table, no lexical ambiguity)
reports `syntaxError p`, no token path through a token `a` starting at `p` begins a sentence,
whatever terminals one imagines after it: the abstract machine would accept that sentence
(`abstract_complete`), the driver follows its run while the tokens are real (`det_until`; `SimP` is
`Sim` with only the real tokens chained, at least one left), so it shifts `a`, and standing behind
`a` it reports no error at `p` (`run_error_pos_ge`).
-/
namespace Pg
open LRV

variable {g : Grammar} {T : Table} {inp : Input}

structure SimP (inp : Input) (c : Config) (σ : List Nat) (tok : Tok) (more : List Tok) (j : Nat) : Prop where
  states : c.stack.map (·.1) = σ
  path : TokPath inp c.pos (tok :: more) j
  la : c.la = none ∨ c.la = some (inp.skip c.pos, some tok)

theorem SimP.shift {c : Config} {σ : List Nat} {tok tok2 : Tok} {more : List Tok} {j : Nat}
    (hs : SimP inp c σ tok (tok2 :: more) j) (s' : Nat) (t : Tree) :
    SimP inp ⟨(s', t) :: c.stack, tok.s + tok.len, none⟩ (s' :: σ) tok2 more j :=
  ⟨congrArg (s' :: ·) hs.states, hs.path.edge.2.2, Or.inl rfl⟩

theorem SimP.reduce {c : Config} {σ : List Nat} {tok : Tok} {more : List Tok} {j : Nat}
    (hs : SimP inp c σ tok more j) (s' : Nat) (t : Tree) (n : Nat) :
    SimP inp ⟨(s', t) :: c.stack.drop n, c.pos, some (inp.skip c.pos, some tok)⟩ (s' :: σ.drop n) tok more j :=
  ⟨by rw [← hs.states, ← List.map_drop]; rfl, hs.path, Or.inr rfl⟩

/-- Along a run that ends before the final `STOP` (`hz`), whose word is real tokens followed by
imagined terminals `rest`, the driver gets behind the last real token (`c'.pos = j`). -/
theorem det_until (hd : DetOK T inp) (hin : InputOK inp) (cf : LRCfg) (hcf : cf.consumeInput = true)
    {x z : List Nat × List Nat} (h : AStar g T x z) (hz : z.2 = [STOP]) :
    ∀ (c : Config) (tok : Tok) (more : List Tok) (j : Nat) (rest : List Nat),
      SimP inp c x.1 tok more j → (tok :: more).map (·.term) ++ rest = x.2 →
      ∃ (c' : Config) (n : Nat), stepsTo g T inp cf n c c' ∧ c'.pos = j := by
  have D := Follows.det (g := g) hd hin cf hcf
  induction h with
  | refl x =>
    intro c tok more j rest hs hw
    -- a real token cannot be the final STOP
    rw [hz] at hw
    exact absurd (List.cons.inj hw).1 hs.path.edge.2.1
  | head x y z hstep _ ih =>
    intro c tok more j rest hs hw
    obtain ⟨he, hne, hrest⟩ := hs.path.edge
    cases hstep with
    | shift σ a w s' ha hact =>
      obtain ⟨rfl, rfl⟩ := List.cons.inj hw
      obtain ⟨n1, hn1⟩ := D.shift hs.states hs.la he hne hact
      cases more with
      | nil =>
        cases hrest
        exact ⟨_, n1, hn1, rfl⟩
      | cons tok2 more2 =>
        obtain ⟨c', n2, hn2, hpos⟩ := ih hz _ tok2 more2 j rest (hs.shift s' _) rfl
        exact ⟨c', n1 + n2, stepsTo_trans n1 n2 _ _ _ hn1 hn2, hpos⟩
    | reduce σ a w q pq s' hact hq hlen hg =>
      obtain ⟨rfl, rfl⟩ := List.cons.inj hw
      obtain ⟨n1, hn1⟩ := D.reduce hs.states hs.la he hact hq hlen hg
      obtain ⟨c', n2, hn2, hpos⟩ := ih hz _ tok more j rest (hs.reduce s' _ _) rfl
      exact ⟨c', n1 + n2, stepsTo_trans n1 n2 _ _ _ hn1 hn2, hpos⟩

theorem run_error_pos_ge (hw : T.wf g = true) (hm : InputMono inp) (cf : LRCfg) :
    ∀ (fuel : Nat) (c : Config), Inv g inp T cf c → ∀ p, run g T inp cf fuel c = .syntaxError p → c.pos ≤ p := by
  intro fuel c hinv p h
  have hc : c.pos ≤ c.front := by
    unfold Config.front
    cases hla : c.la with
    | none => exact Nat.le_refl _
    | some la =>
      obtain ⟨q, otok⟩ := la
      exact (hinv.la q otok hla).1 ▸ hm.skip_ge _
  exact Nat.le_trans hc (run_error_front_ge hm cf fuel c p h)

theorem stepsTo_inv (hw : T.wf g = true) (cf : LRCfg) (n : Nat) (c c' : Config)
    (h : Inv g inp T cf c) (hs : stepsTo g T inp cf n c c') : Inv g inp T cf c' := by
  fun_induction stepsTo g T inp cf n c c' with
  | case1 c c' => cases hs; exact h
  | case2 n c c' ih =>
    obtain ⟨c1, hstep, hrest⟩ := hs
    exact ih c1 ((step_sound hw cf c h).next hstep) hrest

theorem not_early {I : Nat → List VItem} {F : FirstData} (hw : T.wf g = true)
    (hv : lrComplete g T I F = true) (hd : DetOK T inp) (hin : InputOK inp) (hm : InputMono inp)
    (cf : LRCfg) (hcf : cf.consumeInput = true) (fuel p : Nat)
    (herr : parseLR g T inp cf fuel = .syntaxError p)
    (toks : List Tok) (a : Tok) (j : Nat) (v : List Nat)
    (hpath : TokPath inp 0 (toks ++ [a]) j) (ha : a.s = p)
    (hder : Der g [.nt g.start] ((toks ++ [a]).map (·.term) ++ v)) : False := by
  obtain ⟨s1, hstar, _⟩ := abstract_complete (valid_of_lrComplete hv) hder
  -- `j` is the end of `a`, which lies behind its start `p`
  obtain ⟨hj, hl⟩ := TokPath.last_end toks 0 hpath
  obtain ⟨tok, more, hsplit⟩ := List.exists_cons_of_ne_nil (List.append_ne_nil_of_right_ne_nil toks (List.cons_ne_nil a []))
  rw [hsplit] at hpath hstar
  obtain ⟨c', n, hn, hpos⟩ := det_until (g := g) hd hin cf hcf hstar rfl Config.init tok more j
    (v ++ [STOP]) ⟨rfl, hpath, Or.inl rfl⟩ (List.append_assoc _ _ _).symm
  -- with the fuel that is left or more the driver, now behind `a`, reports the same error
  have herr' := run_mono_of_ne cf fuel n Config.init _ Outcome.noConfusion herr
  rw [Nat.add_comm, run_stepsTo n Config.init c' hn fuel] at herr'
  have := run_error_pos_ge hw hm cf fuel c' (stepsTo_inv hw cf n _ c' (Inv.init _) hn) p herr'
  rw [hpos, hj, ha] at this
  exact absurd this (Nat.not_le.mpr (Nat.lt_add_of_pos_right hl))

end Pg
