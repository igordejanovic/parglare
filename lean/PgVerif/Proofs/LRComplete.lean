import PgVerif.Proofs.LRItems
import PgVerif.Proofs.NDSound
import PgVerif.Spec.Chart
/-!
A validated table accepts every sentence, in two layers. Layer 1: the textbook LR machine on (state
stack, remaining terminals) reads what the symbols after an item's dot derive and ends with the dot
behind them (`Valid.reads_plain`). Layer 2: over the token edges a derivation of the input reads
(`DerT`), each machine step is a scan and an action of whatever runs the table (`Follows`: the
nondeterministic automaton here, the deterministic driver in `Proofs/LRDet.lean`); `Sim` relates a
driver configuration to a machine configuration whose remaining terminals are the input's tokens.
-/
namespace Pg
open LRV

variable {g : Grammar} {T : Table} {I : Nat → List VItem} {F : FirstData}

def atop (σ : List Nat) : Nat :=
  match σ with
  | [] => 0
  | s :: _ => s

/-- One step on (state stack above the start state, remaining terminals). -/
inductive AStep (g : Grammar) (T : Table) : List Nat × List Nat → List Nat × List Nat → Prop where
  | shift (σ : List Nat) (a : Nat) (w : List Nat) (s' : Nat) (ha : a ≠ STOP)
      (h : Action.shift s' ∈ T.actions (atop σ) a) : AStep g T (σ, a :: w) (s' :: σ, w)
  | reduce (σ : List Nat) (a : Nat) (w : List Nat) (p : Nat) (pr : Prod) (s' : Nat)
      (h : Action.reduce p ∈ T.actions (atop σ) a) (hp : g.prod? p = some pr)
      (hlen : pr.rhs.length ≤ σ.length)
      (hg : T.goto (atop (σ.drop pr.rhs.length)) pr.lhs = some s') :
      AStep g T (σ, a :: w) (s' :: σ.drop pr.rhs.length, a :: w)

inductive AStar (g : Grammar) (T : Table) : List Nat × List Nat → List Nat × List Nat → Prop where
  | refl (x : List Nat × List Nat) : AStar g T x x
  | head (x y z : List Nat × List Nat) (h : AStep g T x y) (rest : AStar g T y z) : AStar g T x z

theorem AStar.trans {x y z : List Nat × List Nat} (h1 : AStar g T x y) (h2 : AStar g T y z) :
    AStar g T x z := by
  induction h1 with
  | refl _ => exact h2
  | head x y' _ hs _ ih => exact AStar.head x y' z hs (ih h2)

theorem AStar.single {x y : List Nat × List Nat} (h : AStep g T x y) : AStar g T x y :=
  AStar.head x y y h (AStar.refl y)

namespace Valid
variable (hv : Valid g T I F)
include hv

/-- From a state holding `[p: α . Xs β, la]` the machine reads what `Xs` derives, if the terminal
after it is in FIRST of `β la`, and ends in a state holding `[p: α Xs . β, la]`: a terminal is
shifted; a nonterminal's production is read from its closure item and reduced (the next terminal
is among that item's lookaheads by `der_next`), then the goto is taken. -/
theorem reads_plain {Xs : List Sym} {u : List Nat} (hd : Der g Xs u) :
    ∀ (σ : List Nat) (p d : Nat) (la : List Nat) (β : List Sym) (a : Nat) (w : List Nat),
      ItemAt g T I (atop σ) p d la (Xs ++ β) → a ∈ firstSeq F β la →
      ∃ σ' : List Nat, AStar g T (σ, u ++ a :: w) (σ' ++ σ, a :: w) ∧ σ'.length = Xs.length ∧
        ItemAt g T I (atop (σ' ++ σ)) p (d + Xs.length) la β := by
  induction hd with
  | nil => intro σ p d la β a w h _; exact ⟨[], AStar.refl _, rfl, h⟩
  | tok b Xs u hb _ ih =>
    intro σ p d la β a w h ha
    obtain ⟨s', hact, h'⟩ := (hv.item_spec h).2 hb
    obtain ⟨σ', hstar, hlen, hit⟩ := ih (s' :: σ) p (d + 1) la β a w h' ha
    refine ⟨σ' ++ [s'], ?_, ?_, ?_⟩
    · rw [List.append_assoc]
      exact AStar.head _ _ _ (AStep.shift σ b (u ++ a :: w) s' hb hact) hstar
    · rw [List.length_append, hlen]; rfl
    · exact hit.cast (congrArg atop (List.append_cons σ' s' σ)) (Nat.add_right_comm d 1 Xs.length)
  | prod q pq Xs u1 u2 hq _ h2 ih1 ih2 =>
    intro σ p d la β a w h ha
    obtain ⟨hclos, s2, hg, h'⟩ := hv.item_spec h
    obtain ⟨b, w', hbw⟩ := List.exists_cons_of_ne_nil (List.append_ne_nil_of_right_ne_nil u2 (List.cons_ne_nil a w))
    have hb : b ∈ firstSeq F (Xs ++ β) la := der_next hv.closed h2 β la a w ha b w' hbw
    -- the closure item stands before all of `pq.rhs`: `ih1` with nothing (`β = []`) behind it
    obtain ⟨σq, hstar1, hlen1, hitq⟩ :=
      ih1 σ q 0 _ [] b w' ((List.append_nil pq.rhs).symm ▸ hclos q pq hq rfl) hb
    have hstep := AStep.reduce (σq ++ σ) b w' q pq s2 (hv.item_spec hitq b hb) hq
      (by rw [List.length_append, hlen1]; exact Nat.le_add_right _ _)
      (by rw [← hlen1, List.drop_left]; exact hg)
    rw [← hlen1, List.drop_left] at hstep
    obtain ⟨σ', hstar2, hlen2, hit⟩ := ih2 (s2 :: σ) p (d + 1) la β a w h' ha
    refine ⟨σ' ++ [s2], ?_, ?_, ?_⟩
    · rw [List.append_assoc, List.append_assoc, hbw]
      rw [hbw] at hstar2
      exact (hstar1.trans (AStar.single hstep)).trans hstar2
    · rw [List.length_append, hlen2]; rfl
    · exact hit.cast (congrArg atop (List.append_cons σ' s2 σ)) (Nat.add_right_comm d 1 Xs.length)

end Valid

/-- `Valid.reads_plain` with the item `it`, its advanced copy `it'` and `it.la ⊆ it'.la` named. -/
theorem lemmaA (hv : Valid g T I F) {Xs : List Sym} {u : List Nat} (hd : Der g Xs u) :
    ∀ (σ : List Nat) (it : VItem) (pr : Prod) (β : List Sym) (a : Nat) (w : List Nat),
      atop σ < T.n → it ∈ I (atop σ) → g.prod? it.prod = some pr →
      pr.rhs.drop it.dot = Xs ++ β → a ∈ firstSeq F β it.la →
      ∃ (σ' : List Nat) (it' : VItem), AStar g T (σ, u ++ a :: w) (σ' ++ σ, a :: w) ∧
        σ'.length = Xs.length ∧ atop (σ' ++ σ) < T.n ∧ it' ∈ I (atop (σ' ++ σ)) ∧
        it'.prod = it.prod ∧ it'.dot = it.dot + Xs.length ∧ subsetB it.la it'.la = true := by
  intro σ it pr β a w hs hit hpr hdrop ha
  obtain ⟨σ', hstar, hlen, hlt, hhas, _⟩ := hv.reads_plain hd σ it.prod it.dot it.la β a w
    ⟨hs, hasItem_iff.mpr ⟨it, hit, rfl, rfl, subsetB_refl _⟩, pr, hpr, hdrop⟩ ha
  obtain ⟨it', hit', hrest⟩ := hasItem_iff.mp hhas
  exact ⟨σ', it', hstar, hlen, hlt, hit', hrest⟩

theorem abstract_complete (hv : Valid g T I F) {u : List Nat} (hd : Der g [.nt g.start] u) :
    ∃ s1 : Nat, AStar g T ([], u ++ [STOP]) ([s1], [STOP]) ∧ Action.accept ∈ T.actions s1 STOP := by
  obtain ⟨pr0, hp0, hrhs0⟩ := hv.prod0
  obtain ⟨σ', hstar, hlen, hit⟩ := hv.reads_plain hd [] 0 0 [] [.t STOP] STOP []
    ⟨hv.n_pos, hv.start, pr0, hp0, hrhs0⟩ (List.mem_singleton.mpr rfl)
  obtain ⟨s1, rfl⟩ := List.length_eq_one_iff.mp hlen
  exact ⟨s1, hstar, (hv.item_spec hit).1 rfl⟩

/-- Token edges chained from raw position `i` to raw position `j`. -/
inductive TokPath (inp : Input) : Nat → List Tok → Nat → Prop where
  | nil (i : Nat) : TokPath inp i [] i
  | cons (i : Nat) (tok : Tok) (rest : List Tok) (j : Nat) (hne : tok.term ≠ STOP)
      (hs : tok.s = inp.skip i) (hm : inp.mlen tok.term tok.s = some tok.len) (hl : 0 < tok.len)
      (h : TokPath inp (tok.s + tok.len) rest j) : TokPath inp i (tok :: rest) j

theorem TokPath.append {inp : Input} {i k j : Nat} {u1 u2 : List Tok} (h1 : TokPath inp i u1 k)
    (h2 : TokPath inp k u2 j) : TokPath inp i (u1 ++ u2) j := by
  induction h1 with
  | nil _ => exact h2
  | cons i tok rest _ hne hs hm hl _ ih => exact TokPath.cons i tok (rest ++ u2) j hne hs hm hl (ih h2)

theorem TokPath.last_end {inp : Input} {a : Tok} {j : Nat} (l : List Tok) :
    ∀ i, TokPath inp i (l ++ [a]) j → j = a.s + a.len ∧ 0 < a.len := by
  induction l with
  | nil =>
    intro i h
    cases h with
    | cons _ _ _ _ _ _ _ hl hrest => cases hrest; exact ⟨rfl, hl⟩
  | cons t ts ih =>
    intro i h
    cases h with
    | cons _ _ _ _ _ _ _ _ hrest => exact ih _ hrest

/-- Derivation with its token edges and trees. -/
inductive DerT (g : Grammar) (inp : Input) : List Sym → Nat → Nat → List Tok → List Tree → Prop where
  | nil (i : Nat) : DerT g inp [] i i [] []
  | tok (t i l j : Nat) (Xs : List Sym) (toks : List Tok) (ts : List Tree)
      (h : inp.mlen t (inp.skip i) = some l) (hl : 0 < l) (hne : t ≠ STOP)
      (rest : DerT g inp Xs (inp.skip i + l) j toks ts) :
      DerT g inp (.t t :: Xs) i j (⟨t, inp.skip i, l⟩ :: toks) (.leaf t (inp.skip i) (inp.skip i + l) :: ts)
  | prod (p : Nat) (pr : Prod) (i k j s e : Nat) (cs : List Tree) (Xs : List Sym)
      (toks1 toks2 : List Tok) (ts : List Tree) (hp : g.prod? p = some pr)
      (h1 : DerT g inp pr.rhs i k toks1 cs) (h2 : DerT g inp Xs k j toks2 ts) :
      DerT g inp (.nt pr.lhs :: Xs) i j (toks1 ++ toks2) (.node p s e cs :: ts)

theorem derT_of_derivesSeq {inp : Input} (hin : InputOK inp) {Xs : List Sym} {i j : Nat} {ts : List Tree}
    (h : DerivesSeq g inp Xs i j ts) : ∃ toks, DerT g inp Xs i j toks ts := by
  induction h with
  | nil i => exact ⟨[], DerT.nil i⟩
  | tok t i l j Xs ts hm hl _ ih =>
    obtain ⟨toks, hd⟩ := ih
    have hne : t ≠ STOP := by
      intro he; subst he; rw [hin.stop] at hm; cases hm
    exact ⟨_, DerT.tok t i l j Xs toks ts hm hl hne hd⟩
  | prod p pr i k j s e cs Xs ts hp _ _ ih1 ih2 =>
    obtain ⟨u1, h1⟩ := ih1
    obtain ⟨u2, h2⟩ := ih2
    exact ⟨u1 ++ u2, DerT.prod p pr i k j s e cs Xs u1 u2 ts hp h1 h2⟩

theorem derT_der {inp : Input} {Xs : List Sym} {i j : Nat} {toks : List Tok} {ts : List Tree}
    (h : DerT g inp Xs i j toks ts) : Der g Xs (toks.map (·.term)) := by
  induction h with
  | nil _ => exact Der.nil
  | tok t i l j Xs toks ts _ _ hne _ ih => exact Der.tok t Xs _ hne ih
  | prod p pr i k j s e cs Xs u1 u2 ts hp _ _ ih1 ih2 =>
    rw [List.map_append]; exact Der.prod p pr Xs _ _ hp ih1 ih2

theorem derT_path {inp : Input} {Xs : List Sym} {i j : Nat} {toks : List Tok} {ts : List Tree}
    (h : DerT g inp Xs i j toks ts) : TokPath inp i toks j := by
  induction h with
  | nil i => exact TokPath.nil i
  | tok t i l j Xs toks ts hm hl hne _ ih => exact TokPath.cons i _ toks j hne rfl hm hl ih
  | prod _ _ _ _ _ _ _ _ _ _ _ _ _ _ _ ih1 ih2 => exact ih1.append ih2

theorem derivesSeq_toks {inp : Input} (hin : InputOK inp) {Xs : List Sym} {i j : Nat} {ts : List Tree}
    (h : DerivesSeq g inp Xs i j ts) :
    ∃ toks : List Tok, TokPath inp i toks j ∧ Der g Xs (toks.map (·.term)) := by
  obtain ⟨toks, hd⟩ := derT_of_derivesSeq hin h
  exact ⟨toks, derT_path hd, derT_der hd⟩

def stopTok (inp : Input) (e : Nat) : Tok := ⟨STOP, inp.skip e, 0⟩

/-- The token to scan next: the first remaining one, `STOP` after the last. -/
def nextTok (inp : Input) (toks : List Tok) (e : Nat) : Tok :=
  match toks with
  | [] => stopTok inp e
  | tok :: _ => tok

/-- A driver configuration against a machine configuration: same states, the remaining tokens
chained from the position to the end of the input, the lookahead — if scanned — the next token. -/
structure Sim (inp : Input) (c : Config) (σ : List Nat) (toks : List Tok) (e : Nat) : Prop where
  states : c.stack.map (·.1) = σ
  path : TokPath inp c.pos toks e
  fin : inp.skip e = inp.len
  la : c.la = none ∨ c.la = some (inp.skip c.pos, some (nextTok inp toks e))

theorem topOf_eq_atop (st : List (Nat × Tree)) : topOf st = atop (st.map (·.1)) := by
  unfold topOf atop
  cases st with
  | nil => rfl
  | cons x xs => obtain ⟨s, t⟩ := x; rfl

theorem top_eq_atop (c : Config) : c.top = atop (c.stack.map (·.1)) := topOf_eq_atop c.stack

theorem nextTok_term {inp : Input} {toks : List Tok} {e a : Nat} {w : List Nat}
    (h : toks.map (·.term) ++ [STOP] = a :: w) : (nextTok inp toks e).term = a := by
  cases toks with
  | nil => exact (List.cons.inj h).1
  | cons tok rest => exact (List.cons.inj h).1

/-- `tok` is what stands at raw position `i`: a real token edge starting where layout skipping
arrives, or the empty `STOP` at the end of the input. -/
structure Edge (inp : Input) (i : Nat) (tok : Tok) : Prop where
  start : tok.s = inp.skip i
  real : tok.term ≠ STOP → inp.mlen tok.term tok.s = some tok.len ∧ 0 < tok.len
  stop : tok.term = STOP → inp.skip i = inp.len ∧ tok.len = 0

theorem TokPath.edge {inp : Input} {i j : Nat} {tok : Tok} {rest : List Tok}
    (h : TokPath inp i (tok :: rest) j) :
    Edge inp i tok ∧ tok.term ≠ STOP ∧ TokPath inp (tok.s + tok.len) rest j := by
  cases h with
  | cons _ _ _ _ hne hs hm hl h => exact ⟨⟨hs, fun _ => ⟨hm, hl⟩, fun h => absurd h hne⟩, hne, h⟩

theorem Sim.edge {inp : Input} {c : Config} {σ : List Nat} {toks : List Tok} {e : Nat}
    (hs : Sim inp c σ toks e) : Edge inp c.pos (nextTok inp toks e) := by
  have hpath := hs.path
  cases toks with
  | nil => cases hpath; exact ⟨rfl, fun h => absurd rfl h, fun _ => ⟨hs.fin, rfl⟩⟩
  | cons tok rest => exact hpath.edge.1

theorem Sim.shift {inp : Input} {c : Config} {σ : List Nat} {tok : Tok} {rest : List Tok} {e : Nat}
    (hs : Sim inp c σ (tok :: rest) e) (s' : Nat) (t : Tree) :
    Sim inp ⟨(s', t) :: c.stack, tok.s + tok.len, none⟩ (s' :: σ) rest e :=
  ⟨congrArg (s' :: ·) hs.states, hs.path.edge.2.2, hs.fin, Or.inl rfl⟩

theorem Sim.reduce {inp : Input} {c : Config} {σ : List Nat} {toks : List Tok} {e : Nat}
    (hs : Sim inp c σ toks e) (s' : Nat) (t : Tree) (n : Nat) :
    Sim inp ⟨(s', t) :: c.stack.drop n, c.pos, some (inp.skip c.pos, some (nextTok inp toks e))⟩
      (s' :: σ.drop n) toks e :=
  ⟨by rw [← hs.states, ← List.map_drop]; rfl, hs.path, hs.fin, Or.inr rfl⟩

/-- What the simulation needs of a way of running the table: `R c c'` (`c'` is reached from `c`) is
reflexive, transitive, scans the token that stands at the position and applies any action of the
scanned token's cell. -/
structure Follows (g : Grammar) (T : Table) (inp : Input) (R : Config → Config → Prop) : Prop where
  refl : ∀ c, R c c
  trans : ∀ {a b c}, R a b → R b c → R a c
  /-- Only a token on which the state has some action `act` need be scanned: the deterministic
  scanner tries the expected terminals only. -/
  scan : ∀ (c : Config) (tok : Tok) (act : Action), c.la = none → Edge inp c.pos tok →
    act ∈ T.actions c.top tok.term → R c { c with la := some (inp.skip c.pos, some tok) }
  act : ∀ (c c' : Config) (p : Nat) (tok : Tok) (a : Action), c.la = some (p, some tok) →
    a ∈ T.actions c.top tok.term → applyAction g T c p (some tok) a = .next c' → R c c'

/-- The nondeterministic automaton: reachability is carried along. -/
theorem Follows.nd {inp : Input} : Follows g T inp (fun c c' => Reach g T inp c → Reach g T inp c') where
  refl _ h := h
  trans h1 h2 h := h2 (h1 h)
  scan c tok _ hla he _ hr := Reach.step c _ hr (NStep.scan c (some tok) hla (by
    rintro _ ⟨rfl⟩
    exact ⟨he.start, fun h => he.start ▸ he.real h, fun h => (he.stop h).1⟩))
  act c c' p tok a hla ha happ hr := Reach.step c c' hr (happ ▸ NStep.act c p tok a hla ha)

namespace Follows
variable {inp : Input} {R : Config → Config → Prop} (D : Follows g T inp R)
include D

theorem scanned {c : Config} {tok : Tok} {a : Action}
    (hla : c.la = none ∨ c.la = some (inp.skip c.pos, some tok)) (he : Edge inp c.pos tok)
    (hact : a ∈ T.actions c.top tok.term) : R c { c with la := some (inp.skip c.pos, some tok) } := by
  rcases hla with hla | hla
  · exact D.scan c tok _ hla he hact
  · rw [← hla]; exact D.refl c

theorem scanAct {c c' : Config} {tok : Tok} {a : Action}
    (hla : c.la = none ∨ c.la = some (inp.skip c.pos, some tok)) (he : Edge inp c.pos tok)
    (hact : a ∈ T.actions c.top tok.term)
    (happ : applyAction g T { c with la := some (inp.skip c.pos, some tok) } (inp.skip c.pos)
      (some tok) a = .next c') : R c c' :=
  D.trans (D.scanned hla he hact) (D.act _ _ _ tok _ rfl hact happ)

theorem shift {c : Config} {σ : List Nat} {tok : Tok} {s' : Nat} (hst : c.stack.map (·.1) = σ)
    (hla : c.la = none ∨ c.la = some (inp.skip c.pos, some tok)) (he : Edge inp c.pos tok)
    (hne : tok.term ≠ STOP) (hact : Action.shift s' ∈ T.actions (atop σ) tok.term) :
    R c ⟨(s', .leaf tok.term tok.s (tok.s + tok.len)) :: c.stack, tok.s + tok.len, none⟩ := by
  rw [← hst, ← top_eq_atop] at hact
  rw [he.start]
  exact D.scanAct hla he hact (applyAction_shift g T _ _ s' hne)

theorem reduce {c : Config} {σ : List Nat} {tok : Tok} {q s' : Nat} {pq : Prod}
    (hst : c.stack.map (·.1) = σ)
    (hla : c.la = none ∨ c.la = some (inp.skip c.pos, some tok)) (he : Edge inp c.pos tok)
    (hact : Action.reduce q ∈ T.actions (atop σ) tok.term) (hq : g.prod? q = some pq)
    (hlen : pq.rhs.length ≤ σ.length) (hg : T.goto (atop (σ.drop pq.rhs.length)) pq.lhs = some s') :
    R c { stack := (s', .node q (spanStart ((c.stack.take pq.rhs.length).reverse.map (·.2)) c.pos) c.pos
                      ((c.stack.take pq.rhs.length).reverse.map (·.2))) :: c.stack.drop pq.rhs.length,
          pos := c.pos, la := some (inp.skip c.pos, some tok) } := by
  subst hst
  rw [← top_eq_atop] at hact
  rw [← List.map_drop, ← topOf_eq_atop] at hg
  rw [List.length_map] at hlen
  exact D.scanAct hla he hact (applyAction_reduce T _ _ _ hq hlen hg)

end Follows

/-- One step of the abstract machine is a scan (if needed) and an action of the automaton. -/
theorem sim_step {inp : Input} {x y : List Nat × List Nat} (h : AStep g T x y) :
    ∀ (c : Config) (toks : List Tok) (e : Nat), Reach g T inp c → Sim inp c x.1 toks e →
      toks.map (·.term) ++ [STOP] = x.2 →
      ∃ (c' : Config) (toks' : List Tok), Reach g T inp c' ∧ Sim inp c' y.1 toks' e ∧
        toks'.map (·.term) ++ [STOP] = y.2 := by
  intro c toks e hr hs hw
  cases h with
  | shift σ a w s' ha hact =>
    cases toks with
    | nil => exact absurd (List.cons.inj hw).1.symm ha
    | cons tok rest =>
      obtain ⟨rfl, rfl⟩ := List.cons.inj hw
      exact ⟨_, rest, Follows.nd.shift hs.states hs.la hs.edge ha hact hr, hs.shift s' _, rfl⟩
  | reduce σ a w q pq s' hact hq hlen hg =>
    obtain rfl := nextTok_term (inp := inp) (e := e) hw
    exact ⟨_, toks, Follows.nd.reduce hs.states hs.la hs.edge hact hq hlen hg hr, hs.reduce s' _ _, hw⟩

end Pg
