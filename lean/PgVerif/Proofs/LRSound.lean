import PgVerif.Proofs.CFG
import PgVerif.Proofs.LexRules
import PgVerif.Proofs.LRStep
/-!
Soundness of the LR driver model for every well-formed table, input and recognizer behaviour.
The stack is a path of the automaton carrying derivation trees (`StackD`); the three moves of
an LR automaton keep that (`StackD.shift`, `.reduce_append`, `.accept`: the LR and the GLR
driver both rest on these), and `act_sound` applies them to the cases of `applyAction`.
-/

namespace Pg

variable {g : Grammar} {T : Table} {inp : Input}

/-- Stack invariant: the stack is a path of the automaton from the start state,
every entry carries a derivation tree of its state's accessing symbol, and the
spans chain from raw position 0 to the current raw position. -/
inductive StackD (g : Grammar) (inp : Input) (T : Table) : List (Nat × Tree) → Nat → Prop where
  | nil : StackD g inp T [] 0
  | cons (s : Nat) (t : Tree) (rest : List (Nat × Tree)) (i j : Nat)
      (hrest : StackD g inp T rest i) (hd : Derives g inp (T.sym s) i j t)
      (hedge : T.edge (topOf rest) s = true) (hlt : s < T.n) (hne : s ≠ 0) :
      StackD g inp T ((s, t) :: rest) j

theorem StackD.top_lt (hn : 0 < T.n) {st : List (Nat × Tree)} {j : Nat}
    (h : StackD g inp T st j) : topOf st < T.n := by
  cases h with
  | nil => exact hn
  | cons s t rest i j _ _ _ hlt _ => exact hlt

/-- How `Table.backOK`, `Table.wf` (accept) and `LRV.itemSoundOK` speak of every predecessor of `s`. -/
theorem all_preds {s : Nat} {P : Nat → Bool} :
    ((List.range T.n).all fun s' => !T.edge s' s || P s') = true ↔
      ∀ s' < T.n, T.edge s' s = true → P s' = true := by
  simp only [List.all_eq_true, List.mem_range, Bool.or_eq_true, Bool.not_eq_true', ← Bool.not_eq_true,
    ← Decidable.imp_iff_not_or]

/-- `rev` is a right-hand side reversed, walked back from the top state `s`: the stack is long
enough, the entries popped derive the right-hand side in order, what remains is a stack again, and
its top has a goto on `A`. -/
theorem walk_back (hn : 0 < T.n) :
    ∀ (rev : List Sym) (s : Nat) (st : List (Nat × Tree)) (j A : Nat),
      T.backOK s rev A = true → StackD g inp T st j → topOf st = s →
      ∃ i, rev.length ≤ st.length ∧ StackD g inp T (st.drop rev.length) i ∧
        DerivesSeq g inp rev.reverse i j ((st.take rev.length).reverse.map (·.2)) ∧
        (T.goto (topOf (st.drop rev.length)) A).isSome = true := by
  intro rev
  induction rev with
  | nil =>
    intro s st j A hb hs ht
    exact ⟨j, Nat.zero_le _, hs, DerivesSeq.nil _, ht ▸ hb⟩
  | cons X rev ih =>
    intro s st j A hb hs ht
    simp only [Table.backOK, Bool.and_eq_true, bne_iff_ne, ne_eq, beq_iff_eq, all_preds] at hb
    obtain ⟨⟨hs0, hsym⟩, hall⟩ := hb
    cases hs with
    | nil => exact absurd ht.symm hs0
    | cons s1 t rest i j hrest hd hedge hlt hne =>
      cases ht
      obtain ⟨i0, hlen, hst, hder, hgo⟩ :=
        ih (topOf rest) rest i A (hall _ (hrest.top_lt hn) hedge) hrest rfl
      refine ⟨i0, Nat.succ_le_succ hlen, hst, ?_, hgo⟩
      -- popping one more entry appends its tree to the children
      show DerivesSeq g inp (X :: rev).reverse i0 j (((s1, t) :: rest.take rev.length).reverse.map (·.2))
      rw [List.reverse_cons, List.reverse_cons, List.map_append]
      exact DerivesSeq.append hder (hsym ▸ hd)

/-- The lookahead was scanned where layout skipping from `pos` arrives, and is a token edge there;
STOP, when the input must be consumed, only at its end. -/
def LaOK (inp : Input) (cf : LRCfg) (pos : Nat) (la : Option (Nat × Option Tok)) : Prop :=
  ∀ p otok, la = some (p, otok) → p = inp.skip pos ∧
    ∀ tok, otok = some tok → tok.s = p ∧
      (tok.term ≠ STOP → inp.mlen tok.term p = some tok.len ∧ 0 < tok.len) ∧
      (tok.term = STOP → cf.consumeInput = true → p = inp.len)

structure Inv (g : Grammar) (inp : Input) (T : Table) (cf : LRCfg) (c : Config) : Prop where
  st : StackD g inp T c.stack c.pos
  la : LaOK inp cf c.pos c.la

theorem lexDisamb_sub (toks : List Tok) : ∀ t ∈ lexDisamb T toks, t ∈ toks :=
  fun _ ht => (mem_rule45 T (lexDisamb_eq_rule45 T toks ▸ ht)).1

theorem nextTokens_lexDis (consume : Bool) (s p : Nat) :
    nextTokens T inp consume true s p = lexDisamb T (nextTokens T inp consume false s p) := by
  simp only [nextTokens, if_true, Bool.false_eq_true, if_false]

theorem expected_fst {s : Nat} (hlen : (T.finish s).length = (T.cells s).length) :
    (T.expected s).map (·.1) = (T.cells s).map (·.1) :=
  List.map_fst_zip (by rw [List.length_map]; exact Nat.le_of_eq hlen.symm)

theorem mem_nextTokens {consume lexDis : Bool} {s p : Nat} {tok : Tok}
    (h : tok ∈ nextTokens T inp consume lexDis s p) :
    (tok = ⟨STOP, p, 0⟩ ∧ (consume = false ∨ p = inp.len)) ∨ tok ∈ cands inp p (T.expected s) := by
  have hraw : tok ∈ nextTokens T inp consume false s p := by
    cases lexDis
    · exact h
    · exact lexDisamb_sub _ tok (nextTokens_lexDis (T := T) (inp := inp) consume s p ▸ h)
  simp only [nextTokens, Bool.false_eq_true, if_false, List.mem_append, List.mem_ite_nil_right,
    List.mem_singleton] at hraw
  rcases hraw with ⟨hc, h⟩ | ⟨_, h⟩
  · rw [Bool.and_eq_true, Bool.or_eq_true, Bool.not_eq_true', beq_iff_eq] at hc
    exact .inl ⟨h, hc.2⟩
  · exact .inr ((recognize_sub_cands T _ 0 [] tok h).resolve_left (List.not_mem_nil))

theorem nextTokens_ok (cf : LRCfg) (s p : Nat) :
    ∀ tok ∈ nextTokens T inp cf.consumeInput cf.lexDis s p, tok.s = p ∧
      (tok.term ≠ STOP → inp.mlen tok.term p = some tok.len ∧ 0 < tok.len) ∧
      (tok.term = STOP → cf.consumeInput = true → p = inp.len) := by
  intro tok ht
  rcases mem_nextTokens ht with ⟨rfl, hc⟩ | h
  · exact ⟨rfl, fun hne => absurd rfl hne, fun _ hci => hc.resolve_left (by rw [hci]; nofun)⟩
  · obtain ⟨y, _, len, hm, rfl⟩ := mem_cands h
    obtain ⟨hne, hml, hl⟩ := Input.matchAt_eq_some.mp hm
    exact ⟨rfl, fun _ => ⟨hml, hl⟩, fun he => absurd he hne⟩

theorem actions_mem {s a : Nat} {act : Action} (h : act ∈ T.actions s a) :
    ∃ c ∈ T.cells s, c.1 = a ∧ act ∈ c.2 := by
  unfold Table.actions at h
  cases hf : (T.cells s).find? (fun c => c.1 == a) with
  | none => rw [hf] at h; cases h
  | some c =>
    rw [hf] at h
    have hc := List.find?_some (p := fun c : Nat × List Action => c.1 == a) hf
    exact ⟨c, List.mem_of_find?_eq_some hf, beq_iff_eq.mp hc, h⟩

theorem goto_mem {s A s' : Nat} (h : T.goto s A = some s') :
    ∃ c ∈ T.gotoL s, c.1 = A ∧ c.2 = s' := by
  unfold Table.goto at h
  cases hf : (T.gotoL s).find? (fun c => c.1 == A) with
  | none => rw [hf] at h; cases h
  | some c =>
    rw [hf] at h
    have hc := List.find?_some (p := fun c : Nat × Nat => c.1 == A) hf
    exact ⟨c, List.mem_of_find?_eq_some hf, beq_iff_eq.mp hc, Option.some.inj h⟩

/-- What `Table.wf` says of a state, per action of a cell and per goto. -/
structure StateOK (g : Grammar) (T : Table) (s : Nat) : Prop where
  shift {x s' : Nat} (h : Action.shift s' ∈ T.actions s x) :
    s' < T.n ∧ s' ≠ 0 ∧ T.sym s' = Sym.t x ∧ x ≠ STOP
  reduce {x p : Nat} (h : Action.reduce p ∈ T.actions s x) :
    ∃ pr, g.prod? p = some pr ∧ T.backOK s pr.rhs.reverse pr.lhs = true
  accept {x : Nat} (h : Action.accept ∈ T.actions s x) :
    x = STOP ∧ T.sym s = Sym.nt g.start ∧ s ≠ 0 ∧ ∀ s' < T.n, T.edge s' s = true → s' = 0
  goto {A s' : Nat} (h : T.goto s A = some s') : s' < T.n ∧ s' ≠ 0 ∧ T.sym s' = Sym.nt A

theorem wf_state (hw : T.wf g = true) {s : Nat} (hs : s < T.n) : StateOK g T s := by
  rw [Table.wf, Bool.and_eq_true, List.all_eq_true] at hw
  have h := hw.2 s (List.mem_range.mpr hs)
  rw [Bool.and_eq_true, List.all_eq_true, List.all_eq_true] at h
  constructor
  · intro x s' hx
    obtain ⟨c, hc, rfl, hm⟩ := actions_mem hx
    simpa only [Bool.and_eq_true, decide_eq_true_eq, bne_iff_ne, ne_eq, beq_iff_eq, and_assoc]
      using List.all_eq_true.mp (h.1 c hc) _ hm
  · intro x p hx
    obtain ⟨c, hc, _, hm⟩ := actions_mem hx
    have := List.all_eq_true.mp (h.1 c hc) _ hm
    cases hp : g.prod? p with
    | none => simp only [hp] at this; cases this
    | some pr =>
      simp only [hp, Bool.and_eq_true] at this
      exact ⟨pr, rfl, this.2⟩
  · intro x hx
    obtain ⟨c, hc, rfl, hm⟩ := actions_mem hx
    simpa only [Bool.and_eq_true, beq_iff_eq, bne_iff_ne, ne_eq, all_preds, and_assoc]
      using List.all_eq_true.mp (h.1 c hc) _ hm
  · intro A s' hg
    obtain ⟨c, hc, rfl, rfl⟩ := goto_mem hg
    simpa only [Bool.and_eq_true, decide_eq_true_eq, bne_iff_ne, ne_eq, beq_iff_eq, and_assoc]
      using h.2 c hc

theorem wf_pos (hw : T.wf g = true) : 0 < T.n := by
  simp only [Table.wf, Bool.and_eq_true, decide_eq_true_eq] at hw
  exact hw.1

theorem edge_of_shift {s a s' : Nat} (h : Action.shift s' ∈ T.actions s a) :
    T.edge s s' = true := by
  obtain ⟨c, hc, _, hm⟩ := actions_mem h
  simp only [Table.edge, Bool.or_eq_true, List.any_eq_true]
  exact Or.inl ⟨c, hc, List.contains_iff_mem.mpr hm⟩

theorem edge_of_goto {s A s' : Nat} (h : T.goto s A = some s') : T.edge s s' = true := by
  obtain ⟨c, hc, _, hm⟩ := goto_mem h
  simp only [Table.edge, Bool.or_eq_true, List.any_eq_true]
  exact Or.inr ⟨c, hc, beq_iff_eq.mpr hm⟩

theorem StackD.shift (hw : T.wf g = true) {st : List (Nat × Tree)} {r p a l s' : Nat}
    (hs : StackD g inp T st r) (hx : Action.shift s' ∈ T.actions (topOf st) a) (hp : inp.skip r = p)
    (hm : inp.mlen a p = some l) (hl : 0 < l) :
    StackD g inp T ((s', .leaf a p (p + l)) :: st) (p + l) := by
  subst hp
  obtain ⟨h1, h2, h3, _⟩ := (wf_state hw (hs.top_lt (wf_pos hw))).shift hx
  refine .cons s' _ st r _ hs ?_ (edge_of_shift hx) h1 h2
  rw [h3]
  exact .tok a r l _ [] [] hm hl (.nil _)

/-- The span recorded in the new node is free: `DerivesSeq` does not constrain spans. -/
theorem StackD.reduce_append (hw : T.wf g = true) {stk st : List (Nat × Tree)} {r pid x : Nat} {pr : Prod}
    (hs : StackD g inp T (stk ++ st) r) (hlen : stk.length = pr.rhs.length)
    (hx : Action.reduce pid ∈ T.actions (topOf (stk ++ st)) x) (hp : g.prod? pid = some pr) :
    ∃ s', T.goto (topOf st) pr.lhs = some s' ∧
      ∀ sp ep, StackD g inp T ((s', .node pid sp ep (stk.reverse.map (·.2))) :: st) r := by
  have hn := wf_pos hw
  obtain ⟨pr', hpr', hback⟩ := (wf_state hw (hs.top_lt hn)).reduce hx
  obtain rfl : pr' = pr := Option.some.inj (hpr'.symm.trans hp)
  obtain ⟨i, _, hst, hder, hgo⟩ := walk_back hn pr'.rhs.reverse _ _ r pr'.lhs hback hs rfl
  rw [List.length_reverse, ← hlen, List.drop_left] at hst hgo
  rw [List.length_reverse, List.reverse_reverse, ← hlen, List.take_left] at hder
  obtain ⟨s', hgt⟩ := Option.isSome_iff_exists.mp hgo
  obtain ⟨h1, h2, h3⟩ := (wf_state hw (hst.top_lt hn)).goto hgt
  refine ⟨s', hgt, fun sp ep => .cons s' _ _ i r hst ?_ (edge_of_goto hgt) h1 h2⟩
  rw [h3]
  exact .prod pid pr' i r r sp ep _ [] [] hp hder (.nil _)

theorem StackD.accept (hw : T.wf g = true) {st : List (Nat × Tree)} {r x : Nat}
    (hs : StackD g inp T st r) (hx : Action.accept ∈ T.actions (topOf st) x) :
    x = STOP ∧ ∃ s t, st = [(s, t)] ∧ Derives g inp (.nt g.start) 0 r t := by
  have hn := wf_pos hw
  obtain ⟨hx0, hsym, hne, hpreds⟩ := (wf_state hw (hs.top_lt hn)).accept hx
  refine ⟨hx0, ?_⟩
  cases hs with
  | nil => exact absurd rfl hne
  | cons s1 t rest i j hrest hd hedge hlt hne1 =>
    -- only the start state precedes an accepting state, and only the empty stack ends in it
    have h0 := hpreds (topOf rest) (hrest.top_lt hn) hedge
    cases hrest with
    | nil => exact ⟨s1, t, rfl, by rw [← hsym]; exact hd⟩
    | cons s2 _ _ _ _ _ _ _ _ hne2 => exact absurd h0 hne2

theorem Inv.init (cf : LRCfg) : Inv g inp T cf Config.init :=
  ⟨StackD.nil, nofun⟩

/-- What soundness asks of a step's result; errors are not constrained. -/
def StepOK (g : Grammar) (inp : Input) (T : Table) (cf : LRCfg) : Step → Prop
  | .next c' => Inv g inp T cf c'
  | .done (.ok t e p) =>
    Derives g inp (.nt g.start) 0 e t ∧ p = inp.skip e ∧ (cf.consumeInput = true → p = inp.len)
  | .done _ => True

theorem StepOK.next {cf : LRCfg} {st : Step} {c' : Config} (h : StepOK g inp T cf st)
    (hs : st = .next c') : Inv g inp T cf c' := by subst hs; exact h

theorem StepOK.ok {cf : LRCfg} {st : Step} {t : Tree} {e p : Nat} (h : StepOK g inp T cf st)
    (hs : st = .done (.ok t e p)) :
    Derives g inp (.nt g.start) 0 e t ∧ p = inp.skip e ∧ (cf.consumeInput = true → p = inp.len) := by
  subst hs; exact h

theorem act_sound (hw : T.wf g = true) (cf : LRCfg) (c : Config) (hinv : Inv g inp T cf c)
    {p : Nat} {otok : Option Tok} (hla : c.la = some (p, otok)) {a : Action} {x : Nat}
    (hx : a ∈ T.actions c.top x)
    (hxo : (∃ tok, otok = some tok ∧ x = tok.term) ∨ (x = STOP ∧ cf.consumeInput = false))
    {r : Step} (hr : ActCase g T c p otok a r) : StepOK g inp T cf r := by
  -- `Config.top` unfolds to `topOf` of the stack, the form the `StackD` lemmas speak of
  change a ∈ T.actions (topOf c.stack) x at hx
  obtain ⟨rfl, htok⟩ := hinv.la p otok hla
  cases hr with
  | shift tok s' hne =>
    -- a shift is never on STOP, so the cell is the lookahead's
    obtain ⟨_, ⟨rfl⟩, rfl⟩ := hxo.resolve_right
      (fun h => ((wf_state hw (hinv.st.top_lt (wf_pos hw))).shift hx).2.2.2 h.1)
    obtain ⟨hm, hl⟩ := (htok tok rfl).2.1 hne
    exact ⟨hinv.st.shift hw hx rfl hm hl, nofun⟩
  | reduce _ pid pr popped rest cs s' hpr hstack hlen hcs hgoto =>
    have hst := hinv.st
    rw [hstack] at hst hx
    obtain ⟨s2, hg2, hst'⟩ := hst.reduce_append hw hlen hx hpr
    cases hgoto.symm.trans hg2
    exact ⟨hcs ▸ hst' _ _, hinv.la⟩
  | accept _ s t hlast =>
    obtain ⟨hxs, s1, t1, hst, hd⟩ := hinv.st.accept hw hx
    rw [hst] at hlast
    cases hlast
    refine ⟨hd, rfl, fun hci => ?_⟩
    rcases hxo with ⟨tok, rfl, rfl⟩ | ⟨_, hcf⟩
    · exact (htok tok rfl).2.2 hxs hci
    · rw [hci] at hcf; cases hcf
  | crash => trivial

theorem step_sound (hw : T.wf g = true) (cf : LRCfg) (c : Config)
    (hinv : Inv g inp T cf c) : StepOK g inp T cf (step g T inp cf c) := by
  -- the statement is about the result itself, so it gets a name for the case split
  generalize hr : step g T inp cf c = r
  cases step_cases hr with
  | scan otok hla htok =>
    refine ⟨hinv.st, fun p o h => ?_⟩
    cases h
    exact ⟨rfl, fun tok ht => nextTokens_ok cf c.top _ tok (htok tok ht)⟩
  | disamb | syntaxError | crash => trivial
  | act p otok x a r hla hx hxo hr => exact act_sound hw cf c hinv hla hx hxo hr

/-- An accepted parse is a derivation tree of the input's token edges from position 0, rooted in
the start symbol; with `consume_input` nothing but layout follows it. -/
theorem run_sound (hw : T.wf g = true) (cf : LRCfg) :
    ∀ (fuel : Nat) (c : Config), Inv g inp T cf c →
      ∀ t e p, run g T inp cf fuel c = .ok t e p →
        Derives g inp (.nt g.start) 0 e t ∧ p = inp.skip e ∧
        (cf.consumeInput = true → p = inp.len) := by
  intro fuel c hinv t e p h
  obtain ⟨c', hinv', hs⟩ :=
    run_final (fun c _ h hs => (step_sound hw cf c h).next hs) fuel c hinv h nofun
  exact (step_sound hw cf c' hinv').ok hs

theorem run_syntaxError (hw : T.wf g = true) (cf : LRCfg) :
    ∀ (fuel : Nat) (c : Config), Inv g inp T cf c → ∀ p, run g T inp cf fuel c = .syntaxError p →
      ∃ c' : Config, Inv g inp T cf c' ∧ p = inp.skip c'.pos := by
  intro fuel c hinv p h
  obtain ⟨c', hinv', hs⟩ :=
    run_final (fun c _ h hs => (step_sound hw cf c h).next hs) fuel c hinv h nofun
  -- a syntax error is only produced with a scanned lookahead at `p`
  cases step_cases hs with
  | syntaxError _ otok hla => exact ⟨c', hinv', (hinv'.la p otok hla).1⟩
  | act _ _ _ _ _ _ _ _ hr => cases hr

end Pg
