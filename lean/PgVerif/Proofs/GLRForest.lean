import PgVerif.Model.GLR

/-!
The trees packed in the forest of the GLR driver model: `TreeOf s l t` chooses one possibility per
link below link `l` (the spans recorded in interior nodes are not looked at), `treeOfB` decides it,
`forestHasTree` looks below the root links, those of the accepted heads.
-/

namespace Pg
namespace GLR

mutual
  def TreeOf (s : GState) : Nat → Tree → Prop
    | l, .leaf a st en => Poss.term a st en ∈ (s.link l).poss
    | l, .node pid _ _ cs => ∃ kids, Poss.nonterm pid kids ∈ (s.link l).poss ∧ TreesOf s kids cs
  def TreesOf (s : GState) : List Nat → List Tree → Prop
    | [], [] => True
    | k :: ks, c :: cs => TreeOf s k c ∧ TreesOf s ks cs
    | [], _ :: _ => False
    | _ :: _, [] => False
end

theorem treesOf_length (s : GState) :
    ∀ (cs : List Tree) (ks : List Nat), TreesOf s ks cs → ks.length = cs.length
  | [], [], _ => rfl
  | [], _ :: _, h => h.elim
  | _ :: _, [], h => h.elim
  | _ :: cs, _ :: ks, h => congrArg (· + 1) (treesOf_length s cs ks h.2)

mutual
  def treeOfB (s : GState) : Nat → Tree → Bool
    | l, .leaf a st en => (s.link l).poss.any (fun p =>
        match p with
        | .term a' st' en' => a' == a && st' == st && en' == en
        | .nonterm _ _ => false)
    | l, .node pid _ _ cs => (s.link l).poss.any (fun p =>
        match p with
        | .nonterm pid' kids => pid' == pid && treesOfB s kids cs
        | .term _ _ _ => false)
  def treesOfB (s : GState) : List Nat → List Tree → Bool
    | [], [] => true
    | k :: ks, c :: cs => treeOfB s k c && treesOfB s ks cs
    | [], _ :: _ => false
    | _ :: _, [] => false
end

mutual
  theorem treeOfB_sound (s : GState) : ∀ (t : Tree) (l : Nat), treeOfB s l t = true → TreeOf s l t
    | .leaf a st en, l, h => by
      simp only [treeOfB, List.any_eq_true] at h
      obtain ⟨p, hp, hm⟩ := h
      cases p with
      | term a' st' en' =>
        simp only [Bool.and_eq_true, beq_iff_eq] at hm
        obtain ⟨⟨rfl, rfl⟩, rfl⟩ := hm
        simp only [TreeOf]; exact hp
      | nonterm _ _ => exact nomatch hm
    | .node pid sp ep cs, l, h => by
      simp only [treeOfB, List.any_eq_true] at h
      obtain ⟨p, hp, hm⟩ := h
      cases p with
      | term _ _ _ => exact nomatch hm
      | nonterm pid' kids =>
        simp only [Bool.and_eq_true, beq_iff_eq] at hm
        obtain ⟨rfl, hk⟩ := hm
        simp only [TreeOf]
        exact ⟨kids, hp, treesOfB_sound s cs kids hk⟩
  theorem treesOfB_sound (s : GState) : ∀ (cs : List Tree) (ks : List Nat), treesOfB s ks cs = true → TreesOf s ks cs
    | [], [], _ => trivial
    | [], _ :: _, h => nomatch h
    | _ :: _, [], h => nomatch h
    | c :: cs, k :: ks, h => by
      simp only [treesOfB, Bool.and_eq_true] at h
      simp only [TreesOf]
      exact ⟨treeOfB_sound s c k h.1, treesOfB_sound s cs ks h.2⟩
end

def forestHasTree (s : GState) (t : Tree) : Bool :=
  s.accepted.any (fun a => (s.parents a).any (fun l => treeOfB s l t))

theorem forestHasTree_sound (s : GState) (t : Tree) (h : forestHasTree s t = true) :
    ∃ a ∈ s.accepted, ∃ l ∈ s.parents a, TreeOf s l t := by
  simp only [forestHasTree, List.any_eq_true] at h
  obtain ⟨a, ha, l, hl, ht⟩ := h
  exact ⟨a, ha, l, hl, treeOfB_sound s t l ht⟩

end GLR
end Pg
