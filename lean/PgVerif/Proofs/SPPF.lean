import PgVerif.Spec.SPPF
import PgVerif.Proofs.Chart
import PgVerif.Proofs.ListLemmas
/-!
The reference SPPF is exact: its packed alternatives are exactly the packed
alternatives `(A, i, j, production, split)` with derivable pieces whose span
`(A, i, j)` is useful, i.e. reachable top-down from a parse of the input.
-/
namespace Pg

/-- `ks` are the ends of derivable pieces of `Xs` chained from `i` to `j`. -/
inductive DerivesSplit (g : Grammar) (inp : Input) : List Sym → Nat → List Nat → Nat → Prop where
  | nil (i : Nat) : DerivesSplit g inp [] i [] i
  | cons (X : Sym) (Xs : List Sym) (i k : Nat) (ks : List Nat) (j : Nat) (t : Tree)
      (h : Derives g inp X i k t) (rest : DerivesSplit g inp Xs k ks j) :
      DerivesSplit g inp (X :: Xs) i (k :: ks) j

def PackedAlt (g : Grammar) (inp : Input) (a : PAlt) : Prop :=
  ∃ pr, g.prod? a.p = some pr ∧ pr.lhs = a.A ∧ a.p ≠ 0 ∧ DerivesSplit g inp pr.rhs a.i a.ks a.j

/-- Spans that occur in some parse of the input (`consume`) or of a sentence prefix. -/
inductive Useful (g : Grammar) (inp : Input) (consume : Bool) : Fact → Prop where
  | root (j : Nat) (t : Tree) (h : Derives g inp (.nt g.start) 0 j t)
      (hc : consume = true → inp.skip j = inp.len) : Useful g inp consume (g.start, 0, j)
  | child (a : PAlt) (f' : Fact) (hf : Useful g inp consume (a.A, a.i, a.j)) (ha : PackedAlt g inp a)
      (hk : f' ∈ childFacts g a) : Useful g inp consume f'

variable {g : Grammar} {inp : Input}

theorem DerivesSplit.derivesSeq {Xs : List Sym} {i j : Nat} {ks : List Nat}
    (h : DerivesSplit g inp Xs i ks j) : ∃ ts, DerivesSeq g inp Xs i j ts := by
  induction h with
  | nil i => exact ⟨[], .nil i⟩
  | cons X Xs i k ks j t h _ ih => exact ih.elim fun ts hts => ⟨t :: ts, DerivesSeq.append h hts⟩

theorem mem_splits_nil {ch : List Fact} {i j : Nat} {ks : List Nat} :
    ks ∈ splits inp ch [] i j ↔ i = j ∧ ks = [] := by
  simp only [splits, List.mem_ite_nil_right, List.mem_singleton]

theorem mem_splits_cons {ch : List Fact} {X : Sym} {Xs : List Sym} {i j : Nat} {ks : List Nat} :
    ks ∈ splits inp ch (X :: Xs) i j ↔
      ∃ k ks', k ∈ symEnds inp ch X i ∧ ks' ∈ splits inp ch Xs k j ∧ ks = k :: ks' := by
  simp only [splits, List.mem_flatMap, List.mem_map, List.mem_eraseDups, eq_comm, exists_and_left]

theorem splits_sound {ch : List Fact} (hs : ChartSound g inp ch) {Xs : List Sym} {i j : Nat}
    {ks : List Nat} (h : ks ∈ splits inp ch Xs i j) : DerivesSplit g inp Xs i ks j := by
  induction Xs generalizing i ks with
  | nil =>
    obtain ⟨rfl, rfl⟩ := mem_splits_nil.mp h
    exact .nil i
  | cons X Xs ih =>
    obtain ⟨k, ks', hk, hks', rfl⟩ := mem_splits_cons.mp h
    obtain ⟨t, ht⟩ := symEnds_sound hs hk
    exact .cons X Xs i k ks' j t ht (ih hks')

theorem splits_complete {ch : List Fact} (hx : ChartExact g inp ch) (hin : InputOK inp)
    {Xs : List Sym} {i j : Nat} {ks : List Nat} (h : DerivesSplit g inp Xs i ks j) :
    i ≤ inp.len → ks ∈ splits inp ch Xs i j := by
  induction h with
  | nil i => exact fun _ => mem_splits_nil.mpr ⟨rfl, rfl⟩
  | cons X Xs i k ks j t h _ ih =>
    exact fun hi => mem_splits_cons.mpr ⟨k, ks, hx.complete h hi, ih (h.le_len hin hi), rfl⟩

theorem mem_enumProds (p : Nat) (pr : Prod) : (p, pr) ∈ enumProds g ↔ g.prod? p = some pr :=
  (mem_enum_iff enumProds.enumFromP (fun _ => rfl) (fun _ _ _ => rfl) g.prods 0 p pr).trans
    (and_iff_right (Nat.zero_le p))

theorem altsOf_sound {ch : List Fact} (hs : ChartSound g inp ch) {f : Fact} {a : PAlt}
    (ha : a ∈ altsOf g inp ch f) : (a.A, a.i, a.j) = f ∧ PackedAlt g inp a := by
  obtain ⟨⟨p, pr⟩, hp, ha⟩ := List.mem_flatMap.mp ha
  obtain ⟨⟨hl, hne⟩, hm⟩ := List.mem_ite_nil_right.mp ha
  obtain ⟨ks, hks, rfl⟩ := List.mem_map.mp hm
  exact ⟨rfl, pr, (mem_enumProds p pr).mp hp, hl, hne, splits_sound hs hks⟩

theorem altsOf_complete {ch : List Fact} (hx : ChartExact g inp ch) (hin : InputOK inp) {a : PAlt}
    (ha : PackedAlt g inp a) (hi : a.i ≤ inp.len) : a ∈ altsOf g inp ch (a.A, a.i, a.j) :=
  let ⟨pr, hp, hl, hne, hd⟩ := ha
  List.mem_flatMap.mpr ⟨(a.p, pr), (mem_enumProds a.p pr).mpr hp, List.mem_ite_nil_right.mpr
    ⟨⟨hl, hne⟩, List.mem_map.mpr ⟨a.ks, splits_complete hx hin hd hi, rfl⟩⟩⟩

theorem childFacts_go_le (hin : InputOK inp) {Xs : List Sym} {i j : Nat} {ks : List Nat}
    (h : DerivesSplit g inp Xs i ks j) : i ≤ inp.len → ∀ f' ∈ childFacts.go Xs i ks, f'.2.1 ≤ inp.len := by
  induction h with
  | nil i => exact fun _ _ hf' => nomatch hf'
  | cons X Xs i k ks j t h _ ih =>
    intro hi f' hf'
    have hk := ih (h.le_len hin hi) f'
    cases X with
    | t t => exact hk hf'
    | nt B => exact (List.mem_cons.mp hf').elim (fun e => e ▸ hi) hk

theorem useful_le (hin : InputOK inp) {consume : Bool} {f : Fact} (h : Useful g inp consume f) :
    f.2.1 ≤ inp.len := by
  induction h with
  | root j t h hc => exact Nat.zero_le _
  | child a f' _ ha hk ih =>
    obtain ⟨pr, hp, _, _, hd⟩ := ha
    simp only [childFacts, hp] at hk
    exact childFacts_go_le hin hd ih f' hk

theorem usefulIter_sound {ch : List Fact} (hs : ChartSound g inp ch) (consume : Bool)
    (fuel : Nat) (done todo : List Fact) (hd : ∀ f ∈ done, Useful g inp consume f)
    (ht : ∀ f ∈ todo, Useful g inp consume f) :
    ∀ f ∈ usefulIter g inp ch fuel done todo, Useful g inp consume f := by
  fun_induction usefulIter g inp ch fuel done todo with
  | case1 | case2 => exact hd
  | case3 fuel done x todo _ ih => exact ih hd fun y hy => ht y (List.mem_cons_of_mem _ hy)
  | case4 fuel done x todo _ kids ih =>
    have hx' := ht x (List.mem_cons_self ..)
    refine ih (List.forall_mem_cons.mpr ⟨hx', hd⟩) fun y hy => ?_
    rcases List.mem_append.mp hy with hy | hy
    · obtain ⟨a, ha, hk⟩ := List.mem_flatMap.mp hy
      obtain ⟨rfl, hpa⟩ := altsOf_sound hs ha
      exact .child a y hx' hpa hk
    · exact ht y (List.mem_cons_of_mem _ hy)

/-- The list on the left is the `roots` of `sppfAlts`. -/
theorem mem_sppfRoots {ch : List Fact} (hx : ChartExact g inp ch) (consume : Bool) (f : Fact) :
    f ∈ ((parseEnds g ch).eraseDups.filter (fun j => !consume || inp.skip j == inp.len)).map
        (fun j => (g.start, 0, j)) ↔
      ∃ j, ((∃ t, Derives g inp (.nt g.start) 0 j t) ∧ (consume = true → inp.skip j = inp.len)) ∧
        (g.start, 0, j) = f := by
  simp only [List.mem_map, List.mem_filter, List.mem_eraseDups, parseEnds_iff hx, Bool.or_eq_true,
    Bool.not_eq_true', beq_iff_eq, Bool.eq_false_iff, ne_eq, ← Decidable.imp_iff_not_or]

/-- `usefulClosed` certifies the closure however `useful` was computed: `usefulIter`'s fuel needs no argument. -/
theorem sppf_exact {ch roots useful : List Fact} (hx : ChartExact g inp ch) (hin : InputOK inp)
    {consume : Bool} (hroots : ∀ j t, Derives g inp (.nt g.start) 0 j t →
      (consume = true → inp.skip j = inp.len) → (g.start, 0, j) ∈ roots)
    (hs : ∀ f ∈ useful, Useful g inp consume f) (hcl : usefulClosed g inp ch useful roots = true)
    (a : PAlt) :
    a ∈ useful.flatMap (altsOf g inp ch) ↔ Useful g inp consume (a.A, a.i, a.j) ∧ PackedAlt g inp a := by
  simp only [usefulClosed, Bool.and_eq_true, List.all_eq_true, List.contains_eq_mem,
    decide_eq_true_eq] at hcl
  have hall : ∀ f, Useful g inp consume f → f ∈ useful := by
    intro f hf
    induction hf with
    | root j t ht hcj => exact hcl.1 _ (hroots j t ht hcj)
    | child a' f' hf' ha' hk ih =>
      exact hcl.2 _ ih f' (List.mem_flatMap.mpr ⟨a', altsOf_complete hx hin ha' (useful_le hin hf'), hk⟩)
  rw [List.mem_flatMap]
  constructor
  · rintro ⟨f, hf, ha⟩
    obtain ⟨rfl, hpa⟩ := altsOf_sound hx.sound ha
    exact ⟨hs _ hf, hpa⟩
  · exact fun ⟨hu, hpa⟩ => ⟨_, hall _ hu, altsOf_complete hx hin hpa (useful_le hin hu)⟩

end Pg
