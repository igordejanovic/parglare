import PgVerif.Model.LineCol
/-! The line/column scan from an arbitrary start; `C10_linecol_inverse` is the start (1, 0). -/
namespace Pg

/-- Scanning `pos` characters from (line, col): either no newline was met and the
column advanced by `pos`, or the line advanced by some `d + 1` and the offset just
after the `d + 1`-th newline plus the column is `pos` (counted from any `a`). -/
theorem posToLineCol_go_spec (text : List Nat) (pos line col : Nat) (h : pos ≤ text.length) :
    posToLineCol.go text pos line col = (line, col + pos) ∨
    ∃ d c, posToLineCol.go text pos line col = (line + (d + 1), c) ∧
      ∀ a, lineColToPos.go text (d + 1) a + c = a + pos := by
  fun_induction posToLineCol.go text pos line col with
  | case1 text line col => exact Or.inl rfl
  | case2 k line col => exact absurd h (Nat.not_succ_le_zero k)
  | case3 cs k line col ih =>
    -- a newline: one more line than in the rest
    right
    rcases ih (Nat.le_of_succ_le_succ h) with h1 | ⟨d, c, h1, h2⟩
    · refine ⟨0, 0 + k, h1, fun a => ?_⟩
      rw [lineColToPos.go, if_pos rfl, lineColToPos.go, Nat.zero_add]; exact Nat.add_right_comm a 1 k
    · refine ⟨d + 1, c, by rw [h1, Nat.add_assoc, Nat.add_comm 1], fun a => ?_⟩
      rw [lineColToPos.go, if_pos rfl, h2]; exact Nat.add_right_comm a 1 k
  | case4 x cs k line col hx ih =>
    rcases ih (Nat.le_of_succ_le_succ h) with h1 | ⟨d, c, h1, h2⟩
    · exact Or.inl (by rw [h1, Nat.add_assoc, Nat.add_comm 1])
    · refine Or.inr ⟨d, c, h1, fun a => ?_⟩
      rw [lineColToPos.go, if_neg hx, h2]; exact Nat.add_right_comm a 1 k

end Pg
