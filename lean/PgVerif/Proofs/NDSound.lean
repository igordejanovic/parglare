import PgVerif.Proofs.LRSound
/-!
The nondeterministic LR automaton: any token edge may be taken as lookahead and
any action of the consulted cell may be applied. Every GSS path of the GLR
driver is a run of this automaton (GLR pursues every matching token and every
action of a cell), so its soundness is the soundness of every tree a Tomita
style driver can assemble along one path over a well-formed table.
-/
namespace Pg

variable {g : Grammar} {T : Table} {inp : Input}

def ndCfg : LRCfg := { consumeInput := true, lexDis := false }

inductive NStep (g : Grammar) (T : Table) (inp : Input) : Config → Step → Prop where
  /-- take any token edge at the current position (or STOP at the end of input,
  or nothing) as the lookahead -/
  | scan (c : Config) (otok : Option Tok) (h : c.la = none)
      (hok : ∀ tok, otok = some tok → tok.s = inp.skip c.pos ∧
        (tok.term ≠ STOP → inp.mlen tok.term (inp.skip c.pos) = some tok.len ∧ 0 < tok.len) ∧
        (tok.term = STOP → inp.skip c.pos = inp.len)) :
      NStep g T inp c (.next { c with la := some (inp.skip c.pos, otok) })
  /-- apply any action of the lookahead's cell -/
  | act (c : Config) (p : Nat) (tok : Tok) (a : Action) (hla : c.la = some (p, some tok))
      (ha : a ∈ T.actions c.top tok.term) :
      NStep g T inp c (applyAction g T c p (some tok) a)

inductive Reach (g : Grammar) (T : Table) (inp : Input) : Config → Prop where
  | init : Reach g T inp Config.init
  | step (c c' : Config) (h : Reach g T inp c) (hs : NStep g T inp c (.next c')) : Reach g T inp c'

theorem nstep_ok (hw : T.wf g = true) (c : Config) (hinv : Inv g inp T ndCfg c) (st : Step)
    (hs : NStep g T inp c st) : StepOK g inp T ndCfg st := by
  cases hs with
  | scan otok h hok =>
    refine ⟨hinv.st, fun p o h => ?_⟩
    cases h
    exact ⟨rfl, fun tok ht => ⟨(hok tok ht).1, (hok tok ht).2.1, fun hs _ => (hok tok ht).2.2 hs⟩⟩
  | act p tok a hla ha =>
    exact act_sound hw ndCfg c hinv hla ha (.inl ⟨tok, rfl, rfl⟩) (applyAction_cases g T c p (some tok) a)

theorem reach_inv (hw : T.wf g = true) (c : Config) (h : Reach g T inp c) :
    Inv g inp T ndCfg c := by
  induction h with
  | init => exact Inv.init _
  | step c c' _ hs ih => exact nstep_ok hw c ih _ hs

theorem nd_sound (hw : T.wf g = true) (c : Config) (h : Reach g T inp c) (t : Tree) (e p : Nat)
    (hs : NStep g T inp c (.done (.ok t e p))) : IsParseOf g inp t := by
  obtain ⟨h1, h2, h3⟩ := nstep_ok hw c (reach_inv hw c h) _ hs
  exact ⟨e, h1, by rw [← h2]; exact h3 rfl⟩

end Pg
