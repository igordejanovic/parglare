import PgVerif.Model.Pos
import PgVerif.Proofs.Lex
import PgVerif.Proofs.LRStep
/-!
Positions in the LR driver model. The trees on the stack stay well positioned, in input order
and without overlap (`StackP`, `PInv`). Under `InputMono` the raw position and the front the
driver looks at (`Config.front`) only move forward, so a syntax error is never reported before
the front a run starts from (`run_error_front_ge`, on which "not early" rests).
-/
namespace Pg

variable {g : Grammar} {T : Table} {inp : Input}

theorem posOK_start_le_stop (t : Tree) (h : t.posOK = true) : t.start ≤ t.stop := by
  cases t with
  | leaf _ s e =>
    rw [Tree.posOK, decide_eq_true_eq] at h
    exact h
  | node _ s e cs =>
    rw [Tree.posOK, Bool.and_eq_true, Bool.and_eq_true, decide_eq_true_eq] at h
    exact h.1.1

theorem spanStart_eq_firstStart (cs : List Tree) (pos : Nat) : spanStart cs pos = firstStart cs pos := by
  cases cs <;> rfl

/-- Stack invariant for positions: every tree is well positioned, trees are in
input order without overlap, the top one ends at or before `hi`. -/
inductive StackP : List (Nat × Tree) → Nat → Prop where
  | nil (hi : Nat) : StackP [] hi
  | cons (s : Nat) (t : Tree) (rest : List (Nat × Tree)) (hi : Nat)
      (hp : t.posOK = true) (hs : t.stop ≤ hi) (hr : StackP rest t.start) :
      StackP ((s, t) :: rest) hi

theorem StackP.mono {st : List (Nat × Tree)} {hi hi' : Nat} (h : StackP st hi) (hle : hi ≤ hi') :
    StackP st hi' := by
  cases h with
  | nil => exact StackP.nil _
  | cons s t rest _ hp hs hr => exact StackP.cons s t rest hi' hp (Nat.le_trans hs hle) hr

theorem kidsOK_firstStart_le : ∀ (cs : List Tree) (e : Nat), Tree.kidsOK cs e = true → firstStart cs e ≤ e := by
  intro cs
  induction cs with
  | nil => intro e _; exact Nat.le_refl e
  | cons c cs ih =>
    intro e h
    rw [Tree.kidsOK, Bool.and_eq_true, Bool.and_eq_true, decide_eq_true_eq] at h
    exact Nat.le_trans (posOK_start_le_stop c h.1.1) (Nat.le_trans h.1.2 (ih e h.2))

/-- Accumulator form of the reduction: `acc` are the children popped so far, the stack below them
is bounded by the start of the first of them; when all are popped the node over them is pushed. -/
theorem StackP.reduce (e s' pid : Nat) :
    ∀ (popped rest : List (Nat × Tree)) (acc : List Tree),
      Tree.kidsOK acc e = true → StackP (popped ++ rest) (firstStart acc e) →
      StackP ((s', .node pid (spanStart (popped.reverse.map (·.2) ++ acc) e) e
        (popped.reverse.map (·.2) ++ acc)) :: rest) e := by
  intro popped
  induction popped with
  | nil =>
    intro rest acc h1 h2
    refine .cons _ _ _ _ ?_ (Nat.le_refl _) h2
    rw [List.reverse_nil, List.map_nil, List.nil_append, Tree.posOK, h1, spanStart_eq_firstStart,
      decide_eq_true (kidsOK_firstStart_le _ _ h1), decide_eq_true (Nat.le_refl _)]
    rfl
  | cons x ps ih =>
    intro rest acc h1 h2
    obtain ⟨s, t⟩ := x
    cases h2 with
    | cons _ _ _ _ hp hs hr =>
      have hacc : Tree.kidsOK (t :: acc) e = true := by
        rw [Tree.kidsOK, hp, h1, decide_eq_true hs]; rfl
      have := ih rest (t :: acc) hacc hr
      rwa [List.reverse_cons, List.map_append, List.append_assoc]

/-- The position the driver is looking at: the scanned lookahead's position, or
the raw end of the shifted tokens. -/
def Config.front (c : Config) : Nat :=
  match c.la with
  | some (p, _) => p
  | none => c.pos

theorem step_forward (hm : InputMono inp) (cf : LRCfg) (c : Config) :
    (∀ c', step g T inp cf c = .next c' →
      c.front ≤ c'.front ∧ (c.pos ≤ c.front → c'.pos ≤ c'.front)) ∧
    (∀ p, step g T inp cf c = .done (.syntaxError p) → p = c.front) := by
  constructor
  · intro c' hc'
    cases step_cases hc' with
    | scan _ hla =>
      simp only [Config.front, hla]
      exact ⟨hm.skip_ge _, fun _ => hm.skip_ge _⟩
    | act p _ _ _ _ hla _ _ hr =>
      cases hr with
      | shift =>
        simp only [Config.front, hla]
        exact ⟨Nat.le_add_right _ _, fun _ => Nat.le_refl _⟩
      | reduce =>
        simp only [Config.front, hla]
        exact ⟨Nat.le_refl _, id⟩
  · intro p hp
    cases step_cases hp with
    | syntaxError _ otok hla => simp only [Config.front, hla]
    | act _ _ _ _ _ _ _ _ hr => cases hr

structure PInv (c : Config) : Prop where
  st : StackP c.stack c.pos
  la : c.pos ≤ c.front

theorem PInv.init : PInv Config.init := ⟨.nil _, Nat.le_refl _⟩

theorem StackP.mem {st : List (Nat × Tree)} {hi : Nat} (h : StackP st hi) {s : Nat} {t : Tree}
    (hm : (s, t) ∈ st) : t.posOK = true ∧ t.stop ≤ hi := by
  induction h with
  | nil => cases hm
  | cons s2 t2 rest hi hp hs _ ih =>
    rcases List.mem_cons.mp hm with heq | hin
    · cases heq; exact ⟨hp, hs⟩
    · exact ⟨(ih hin).1, Nat.le_trans (ih hin).2 (Nat.le_trans (posOK_start_le_stop _ hp) hs)⟩

theorem step_pos (hm : InputMono inp) (cf : LRCfg) (c : Config) (hinv : PInv c) :
    (∀ c', step g T inp cf c = .next c' → PInv c') ∧
    (∀ t e p, step g T inp cf c = .done (.ok t e p) → t.posOK = true ∧ t.stop ≤ e) := by
  constructor
  · intro c' hc'
    refine ⟨?_, ((step_forward hm cf c).1 c' hc').2 hinv.la⟩
    cases step_cases hc' with
    | scan => exact hinv.st
    | act p otok _ a _ hla _ _ hr =>
      cases hr with
      | shift tok s' _ =>
        have hp : c.pos ≤ p := by simpa only [Config.front, hla] using hinv.la
        exact .cons _ _ _ _ (decide_eq_true (Nat.le_add_right _ _)) (Nat.le_refl _) (hinv.st.mono hp)
      | reduce _ pid pr popped rest cs s' _ hstack _ hcs _ =>
        have := StackP.reduce c.pos s' pid popped rest [] rfl (hstack ▸ hinv.st)
        rwa [List.append_nil, ← hcs] at this
  · intro t e p ht
    cases step_cases ht with
    | act _ _ _ _ _ _ _ _ hr =>
      cases hr with
      | accept _ s _ hlast => exact hinv.st.mem (List.mem_of_getLast? hlast)

theorem run_pos (hm : InputMono inp) (cf : LRCfg) :
    ∀ (fuel : Nat) (c : Config), PInv c → ∀ t e p, run g T inp cf fuel c = .ok t e p →
      t.posOK = true ∧ t.stop ≤ e := by
  intro fuel c hinv t e p h
  obtain ⟨c', hinv', hs⟩ :=
    run_final (fun c c' h hs => (step_pos (g := g) (T := T) hm cf c h).1 c' hs) fuel c hinv h nofun
  exact (step_pos hm cf c' hinv').2 t e p hs

theorem run_error_front_ge (hm : InputMono inp) (cf : LRCfg) (fuel : Nat) (c : Config)
    (p : Nat) (h : run g T inp cf fuel c = .syntaxError p) : c.front ≤ p := by
  obtain ⟨c', hle, hs⟩ := run_final (P := fun c' => c.front ≤ c'.front)
    (fun c1 c2 h hs => Nat.le_trans h ((step_forward hm cf c1).1 c2 hs).1) fuel c (Nat.le_refl _) h nofun
  exact (step_forward hm cf c').2 p hs ▸ hle

end Pg
