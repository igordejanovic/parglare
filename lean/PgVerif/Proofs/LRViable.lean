import PgVerif.Spec.LRValid
import PgVerif.Proofs.LRSound
/-!
**Correct-prefix property by validation.** If the item sets of a table are sound
(`LRV.lrSound`), the symbols along every path of the automaton from the start
state begin a sentential form of the grammar — in particular the symbols on the
driver's stack, which derive exactly the tokens read so far (`StackD`). So the
driver never reads a token behind which no sentence can continue ("not late").
-/
namespace Pg
open LRV

/-- Zero or more rewriting steps on sentential forms. -/
inductive SDer (g : Grammar) : List Sym → List Sym → Prop where
  | refl (α : List Sym) : SDer g α α
  | step (α β : List Sym) (p : Nat) (pr : Prod) (γ : List Sym) (hp : g.prod? p = some pr)
      (h : SDer g γ (α ++ [.nt pr.lhs] ++ β)) : SDer g γ (α ++ pr.rhs ++ β)

variable {g : Grammar} {T : Table} {inp : Input} {I : Nat → List VItem}

/-- The item `(p, d)` is valid for the symbol string `γ`: `γ = δ ++ (the part of the right-hand side
before the dot)` and `δ A η` is a sentential form. -/
def ValidFor (g : Grammar) (root : Nat) (pd : Nat × Nat) (γ : List Sym) : Prop :=
  ∃ (pr : Prod) (δ η : List Sym), g.prod? pd.1 = some pr ∧ pd.2 ≤ pr.rhs.length ∧
    γ = δ ++ pr.rhs.take pd.2 ∧ SDer g [.nt root] (δ ++ [.nt pr.lhs] ++ η)

theorem ValidFor.rest {root : Nat} {pd : Nat × Nat} {γ : List Sym} (h : ValidFor g root pd γ) :
    ∃ pr η, g.prod? pd.1 = some pr ∧ SDer g [.nt root] (γ ++ pr.rhs.drop pd.2 ++ η) := by
  obtain ⟨pr, δ, η, hp, _, rfl, hd⟩ := h
  refine ⟨pr, η, hp, ?_⟩
  rw [List.append_assoc δ, List.take_append_drop]
  exact .step δ η pd.1 pr _ hp hd

/-- Closure step: from `[A → α . B β]` to `[B → . ω]`. -/
theorem validFor_closure {root : Nat} {pd : Nat × Nat} {γ : List Sym} (h : ValidFor g root pd γ)
    {pr : Prod} (hp : g.prod? pd.1 = some pr) {B : Nat} (hB : pr.rhs[pd.2]? = some (.nt B))
    {q : Nat} {pq : Prod} (hq : g.prod? q = some pq) (hl : pq.lhs = B) :
    ValidFor g root (q, 0) γ := by
  obtain ⟨pr', η, hp', hd⟩ := h.rest
  cases hp.symm.trans hp'
  obtain ⟨hlt, hget⟩ := List.getElem?_eq_some_iff.mp hB
  -- the rest of the right-hand side starts with `B`
  rw [List.drop_eq_getElem_cons hlt, hget, List.append_assoc γ, List.cons_append] at hd
  refine ⟨pq, γ, pr.rhs.drop (pd.2 + 1) ++ η, hq, Nat.zero_le _, (List.append_nil γ).symm, ?_⟩
  rw [hl, List.append_assoc]
  exact hd

/-- Advance: from `[A → α . X β]` to `[A → α X . β]`. -/
theorem validFor_advance {root : Nat} {p d : Nat} {γ : List Sym} (h : ValidFor g root (p, d) γ)
    (pr : Prod) (hp : g.prod? p = some pr) (X : Sym) (hX : pr.rhs[d]? = some X) :
    ValidFor g root (p, d + 1) (γ ++ [X]) := by
  obtain ⟨pr', δ, η, hp', _, rfl, hd⟩ := h
  cases hp.symm.trans hp'
  obtain ⟨hlt, hget⟩ := List.getElem?_eq_some_iff.mp hX
  refine ⟨pr, δ, η, hp, hlt, ?_, hd⟩
  show δ ++ pr.rhs.take d ++ [X] = δ ++ pr.rhs.take (d + 1)
  rw [List.take_add_one, hX, List.append_assoc]
  rfl

theorem closeRound_valid {root : Nat} {γ : List Sym} (its : List (Nat × Nat))
    (h : ∀ pd ∈ its, ValidFor g root pd γ) : ∀ pd ∈ closeRound g its, ValidFor g root pd γ := by
  intro pd hpd
  rw [closeRound, List.mem_append, List.mem_flatMap] at hpd
  rcases hpd with hpd | ⟨src, hsrc, hmem⟩
  · exact h pd hpd
  -- `pd` was added for an item `src` of the list: `src` is some `[A → α . B β]` and `pd` is
  -- `[B → . ω]` for a production `q` of `B`; in every other branch nothing is added
  split at hmem
  next => cases hmem
  next pr hp =>
    split at hmem
    next B hB =>
      obtain ⟨q, _, hq⟩ := List.mem_filterMap.mp hmem
      split at hq
      next pq hpq =>
        obtain ⟨hl, hq⟩ := Option.ite_none_right_eq_some.mp hq
        cases hq
        exact validFor_closure (h src hsrc) hp hB hpq hl
      next => cases hq
    next => cases hmem

theorem closeIter_valid {root : Nat} {γ : List Sym} (n : Nat) (its : List (Nat × Nat))
    (h : ∀ pd ∈ its, ValidFor g root pd γ) : ∀ pd ∈ closeIter g n its, ValidFor g root pd γ := by
  fun_induction closeIter g n its with
  | case1 => exact h
  | case2 n its ih => exact ih fun pd hpd => closeRound_valid its h pd (List.mem_eraseDups.mp hpd)

/-- The symbols spelled by a stack, bottom first. -/
def stackSyms (T : Table) (st : List (Nat × Tree)) : List Sym := st.reverse.map (fun x => T.sym x.1)

structure Sound (g : Grammar) (T : Table) (I : Nat → List VItem) : Prop where
  n_pos : 0 < T.n
  prod0 : ∃ pr0, g.prod? 0 = some pr0
  nonempty : ∀ s, s < T.n → I s ≠ []
  items : ∀ s, s < T.n → ∀ it ∈ I s, itemSoundOK g T I s it = true

theorem sound_of_lrSound (h : lrSound g T I = true) : Sound g T I := by
  simp only [lrSound, Bool.and_eq_true, decide_eq_true_eq, List.all_eq_true, List.mem_range,
    Bool.not_eq_true', List.isEmpty_eq_false_iff] at h
  obtain ⟨⟨h1, h2⟩, h3⟩ := h
  refine ⟨h1, ?_, fun s hs => (h3 s hs).1, fun s hs => (h3 s hs).2⟩
  cases hp : g.prod? 0 with
  | none => rw [hp] at h2; cases h2
  | some pr0 => exact ⟨pr0, rfl⟩

theorem itemSoundOK_kernel {s : Nat} {it : VItem} (h : itemSoundOK g T I s it = true)
    (hd : it.dot ≠ 0) :
    ∃ pr, g.prod? it.prod = some pr ∧ s ≠ 0 ∧ ∀ s0 < T.n, T.edge s0 s = true →
      ∃ k ∈ I s0, k.prod = it.prod ∧ k.dot + 1 = it.dot ∧ pr.rhs[k.dot]? = some (T.sym s) := by
  unfold itemSoundOK at h
  cases hp : g.prod? it.prod with
  | none => rw [hp] at h; cases h
  | some pr =>
    simp only [hp, if_neg hd, Bool.and_eq_true, decide_eq_true_eq, all_preds, List.any_eq_true,
      beq_iff_eq, and_assoc] at h
    exact ⟨pr, rfl, h.2.1, h.2.2⟩

/-- The other items are in the closure of the kernel (and of the start item in state 0), which
the validator recomputed. -/
theorem items_of_kernel (hv : Sound g T I) {root s : Nat} {γ : List Sym} (hs : s < T.n)
    (hk : ∀ k ∈ I s, k.dot ≠ 0 → ValidFor g root (k.prod, k.dot) γ)
    (h0 : s = 0 → ValidFor g root (0, 0) γ) :
    ∀ it ∈ I s, ValidFor g root (it.prod, it.dot) γ := by
  intro it hit
  by_cases hd : it.dot = 0
  · have hok := hv.items s hs it hit
    unfold itemSoundOK at hok
    cases hp : g.prod? it.prod with
    | none => rw [hp] at hok; cases hok
    | some pr =>
      simp only [hp, if_pos hd, Bool.and_eq_true, List.contains_eq_mem, decide_eq_true_eq] at hok
      rw [hd]
      refine closeIter_valid _ _ (fun pd hpd => ?_) _ hok.2
      rcases List.mem_append.mp hpd with h | h
      · obtain ⟨k, hk', rfl⟩ := List.mem_map.mp h
        obtain ⟨hk1, hk2⟩ := List.mem_filter.mp hk'
        exact hk k hk1 (bne_iff_ne.mp hk2)
      · obtain ⟨hs0, h⟩ := List.mem_ite_nil_right.mp h
        cases List.mem_singleton.mp h; exact h0 hs0
  · exact hk it hit hd

/-- `root` is the left-hand side of production 0 (parglare's `S'`), not `g.start`: `lrSound` does
not check the shape of production 0, so the sentential forms are those of `S'`. -/
theorem items_valid (hv : Sound g T I) (root : Nat) (hroot : ∃ pr0, g.prod? 0 = some pr0 ∧ pr0.lhs = root) :
    ∀ (st : List (Nat × Tree)) (j : Nat), StackD g inp T st j →
      ∀ it ∈ I (topOf st), ValidFor g root (it.prod, it.dot) (stackSyms T st) := by
  intro st j hs
  induction hs with
  | nil =>
    obtain ⟨pr0, hp0, hl0⟩ := hroot
    refine items_of_kernel hv hv.n_pos (fun k hk hkd => ?_)
      (fun _ => ⟨pr0, [], [], hp0, Nat.zero_le _, rfl, hl0 ▸ SDer.refl _⟩)
    -- state 0 has no kernel item
    obtain ⟨_, _, h, _⟩ := itemSoundOK_kernel (hv.items 0 hv.n_pos k hk) hkd
    exact absurd rfl h
  | cons s t rest i j hrest _ hedge hlt hne ih =>
    have hsyms : stackSyms T ((s, t) :: rest) = stackSyms T rest ++ [T.sym s] := by
      rw [stackSyms, List.reverse_cons, List.map_append]; rfl
    rw [hsyms]
    refine items_of_kernel hv hlt (fun k hk hkd => ?_) (fun h => absurd h hne)
    -- a kernel item comes from the previous state
    obtain ⟨pr, hp, _, h⟩ := itemSoundOK_kernel (hv.items s hlt k hk) hkd
    obtain ⟨k0, hk0, hp0, hd0, hsym0⟩ := h (topOf rest) (hrest.top_lt hv.n_pos) hedge
    have := validFor_advance (hp0 ▸ ih k0 hk0) pr hp (T.sym s) hsym0
    rwa [hd0] at this

/-- **Correct-prefix property.** The symbols on the stack of every configuration satisfying the
driver invariant begin a sentential form (of `S'`: see `items_valid`). -/
theorem stack_viable (hv : lrSound g T I = true) (st : List (Nat × Tree)) (j : Nat)
    (hs : StackD g inp T st j) :
    ∃ (root : Nat) (η : List Sym), (∃ pr0, g.prod? 0 = some pr0 ∧ pr0.lhs = root) ∧
      SDer g [.nt root] (stackSyms T st ++ η) := by
  have hS := sound_of_lrSound hv
  obtain ⟨pr0, hp0⟩ := hS.prod0
  have htop : topOf st < T.n := hs.top_lt hS.n_pos
  obtain ⟨it, hit⟩ := List.exists_mem_of_ne_nil _ (hS.nonempty _ htop)
  obtain ⟨pr, η, _, hd⟩ := (items_valid hS pr0.lhs ⟨pr0, hp0, rfl⟩ st j hs it hit).rest
  exact ⟨pr0.lhs, pr.rhs.drop it.dot ++ η, ⟨pr0, hp0, rfl⟩, List.append_assoc _ _ _ ▸ hd⟩

end Pg
