import PgVerif.Spec.Viable
import PgVerif.Proofs.Chart
import PgVerif.Proofs.Lex
/-!
The viable-prefix chart is sound, and complete once saturated.

`PrefixSeq g inp Xs i j`: some sentential form derived from the symbols `Xs`
begins with the token path `i..j` — some leading symbols are derived completely
and stepped over (`skip`; nothing to do with the layout skipping `inp.skip`),
then the path ends at the end of a completely derived symbol (`full`) or inside
a nonterminal, as a prefix of one of its right-hand sides (`inner`); whatever
follows is dropped. With every nonterminal productive (the properties' standing
assumption) this is "the tokens up to `j` can be extended to a sentence".
-/
namespace Pg

inductive PrefixSeq (g : Grammar) (inp : Input) : List Sym → Nat → Nat → Prop where
  | full (X : Sym) (Xs : List Sym) (i j : Nat) (t : Tree) (h : Derives g inp X i j t) :
      PrefixSeq g inp (X :: Xs) i j
  | inner (p : Nat) (pr : Prod) (Xs : List Sym) (i j : Nat) (hp : g.prod? p = some pr)
      (h : PrefixSeq g inp pr.rhs i j) : PrefixSeq g inp (.nt pr.lhs :: Xs) i j
  | skip (X : Sym) (Xs : List Sym) (i k j : Nat) (t : Tree) (h : Derives g inp X i k t)
      (rest : PrefixSeq g inp Xs k j) : PrefixSeq g inp (X :: Xs) i j

variable {g : Grammar} {inp : Input}

theorem mem_symPrefixEnds {ch pch : List Fact} {X : Sym} {i j : Nat} :
    j ∈ symPrefixEnds inp ch pch X i ↔
      j ∈ symEnds inp ch X i ∨ ∃ A, X = .nt A ∧ (A, i, j) ∈ pch := by
  cases X with
  | t t =>
    refine ⟨Or.inl, fun h => h.elim id ?_⟩
    rintro ⟨_, ⟨⟩, _⟩
  | nt A =>
    refine List.mem_append.trans (or_congr Iff.rfl
      ((mem_symEnds_nt (inp := inp)).trans ⟨fun h => ⟨A, rfl, h⟩, ?_⟩))
    rintro ⟨_, ⟨⟩, h⟩
    exact h

theorem mem_seqPrefixEnds_cons {ch pch : List Fact} {X : Sym} {Xs : List Sym} {i j : Nat} :
    j ∈ seqPrefixEnds inp ch pch (X :: Xs) i ↔ j ∈ symPrefixEnds inp ch pch X i ∨
      ∃ k, k ∈ symEnds inp ch X i ∧ j ∈ seqPrefixEnds inp ch pch Xs k :=
  List.mem_append.trans (or_congr Iff.rfl List.mem_flatMap)

theorem mem_prefixRound {ch pch : List Fact} {A i j : Nat} :
    (A, i, j) ∈ prefixRound g inp ch pch ↔ ∃ p pr, g.prod? p = some pr ∧ pr.lhs = A ∧ i ≤ inp.len ∧
      j ∈ seqPrefixEnds inp ch pch pr.rhs i ∧ i < j := by
  refine (mem_prodSpans (E := fun pr i =>
    (seqPrefixEnds inp ch pch pr.rhs i).filter (fun j => decide (i < j)))).trans ?_
  simp only [List.mem_filter, decide_eq_true_eq]

theorem prefixSaturate_closed (c : List Fact) (fuel : Nat) (ch : List Fact) :
    (prefixSaturate g inp c fuel ch).2 = true → ∀ f ∈ prefixRound g inp c (prefixSaturate g inp c fuel ch).1,
      f ∈ (prefixSaturate g inp c fuel ch).1 := by
  fun_induction prefixSaturate g inp c fuel ch with
  | case1 ch => exact fun he => nomatch he
  | case2 f ch nf he => exact fun _ => closed_of_fresh_isEmpty he
  | case3 f ch nf he ih => exact ih

/-- Stated for every tail `Xs`: what follows the first symbol is dropped anyway. -/
def PSound (g : Grammar) (inp : Input) (pch : List Fact) : Prop :=
  ∀ f ∈ pch, ∀ Xs, PrefixSeq g inp (.nt f.1 :: Xs) f.2.1 f.2.2

theorem seqPrefixEnds_sound {ch pch : List Fact} (hs : ChartSound g inp ch) (hp : PSound g inp pch)
    {Xs : List Sym} {i j : Nat} (h : j ∈ seqPrefixEnds inp ch pch Xs i) : PrefixSeq g inp Xs i j := by
  induction Xs generalizing i with
  | nil => cases h
  | cons X Xs ih =>
    rcases mem_seqPrefixEnds_cons.mp h with h | ⟨k, hk, hj⟩
    · rcases mem_symPrefixEnds.mp h with h1 | ⟨A, rfl, h1⟩
      · obtain ⟨t, ht⟩ := symEnds_sound hs h1
        exact .full _ _ _ _ t ht
      · exact hp _ h1 Xs
    · obtain ⟨t, ht⟩ := symEnds_sound hs hk
      exact .skip X Xs i k j t ht (ih hj)

theorem prefixRound_sound {ch pch : List Fact} (hs : ChartSound g inp ch) (hp : PSound g inp pch) :
    PSound g inp (prefixRound g inp ch pch) := by
  intro (A, i, j) hf Xs
  obtain ⟨p, pr, hpr, rfl, _, hj, _⟩ := mem_prefixRound.mp hf
  exact .inner p pr Xs i j hpr (seqPrefixEnds_sound hs hp hj)

theorem prefixSaturate_sound {c : List Fact} (hs : ChartSound g inp c) (fuel : Nat) (ch : List Fact)
    (h : PSound g inp ch) : PSound g inp (prefixSaturate g inp c fuel ch).1 := by
  fun_induction prefixSaturate g inp c fuel ch with
  | case1 ch => exact h
  | case2 f ch nf he => exact h
  | case3 f ch nf he ih => exact ih (forall_mem_append_fresh h (prefixRound_sound hs h))

theorem PrefixSeq.le (hm : InputMono inp) {Xs : List Sym} {i j : Nat} (h : PrefixSeq g inp Xs i j) :
    i ≤ j := by
  induction h with
  | full _ _ _ _ _ h => exact derivesSeq_mono hm h
  | inner _ _ _ _ _ _ _ ih => exact ih
  | skip _ _ _ _ _ _ h _ ih => exact Nat.le_trans (derivesSeq_mono hm h) ih

theorem pclosed_complete {ch pch : List Fact} (hx : ChartExact g inp ch)
    (hpc : ∀ f ∈ prefixRound g inp ch pch, f ∈ pch) (hin : InputOK inp) (hm : InputMono inp)
    {Xs : List Sym} {i j : Nat} (h : PrefixSeq g inp Xs i j) :
    i ≤ inp.len → i < j → j ∈ seqPrefixEnds inp ch pch Xs i := by
  induction h with
  | full X Xs i j t h =>
    exact fun hi _ => mem_seqPrefixEnds_cons.mpr (.inl (mem_symPrefixEnds.mpr (.inl (hx.complete h hi))))
  | inner p pr Xs i j hp _ ih =>
    intro hi hij
    have hfact : (pr.lhs, i, j) ∈ pch := hpc _ (mem_prefixRound.mpr ⟨p, pr, hp, rfl, hi, ih hi hij, hij⟩)
    exact mem_seqPrefixEnds_cons.mpr (.inl (mem_symPrefixEnds.mpr (.inr ⟨_, rfl, hfact⟩)))
  | skip X Xs i k j t h rest ih =>
    intro hi hij
    have hk := hx.complete h hi
    by_cases hkj : k < j
    · exact mem_seqPrefixEnds_cons.mpr (.inr ⟨k, hk, ih (h.le_len hin hi) hkj⟩)
    · -- nothing is read after `X`: positions never decrease, so the path ends where `X` ends
      obtain rfl : k = j := Nat.le_antisymm (rest.le hm) (Nat.le_of_not_lt hkj)
      exact mem_seqPrefixEnds_cons.mpr (.inl (mem_symPrefixEnds.mpr (.inl hk)))

/-- When both charts saturate, `viableEnds` lists exactly the raw
positions `j ≤ len` that are 0 or the end of a token path that begins a sentential form of
the start symbol — for every grammar and input. -/
theorem viableEnds_correct (hin : InputOK inp) (hm : InputMono inp) (fuel : Nat) (l : List Nat)
    (h : viableEnds g inp fuel = some l) (j : Nat) :
    j ∈ l ↔ j ≤ inp.len ∧ (j = 0 ∨ PrefixSeq g inp [.nt g.start] 0 j) := by
  simp only [viableEnds, Bool.not_eq_true', Option.ite_none_left_eq_some, Bool.not_eq_false,
    Option.some.injEq] at h
  obtain ⟨hcl, hpcl, rfl⟩ := h
  have hx := chart_exact hin hcl
  have hps := prefixSaturate_sound hx.sound fuel [] (fun _ h => absurd h List.not_mem_nil)
  have hpc := prefixSaturate_closed (chart g inp fuel).1 fuel [] hpcl
  simp only [List.mem_filter, List.mem_range, Bool.or_eq_true, beq_iff_eq, List.contains_eq_mem,
    List.mem_eraseDups, decide_eq_true_eq, Nat.lt_succ_iff]
  refine and_congr_right fun _ => ⟨Or.imp_right fun hmem => ?_, fun h => ?_⟩
  · exact seqPrefixEnds_sound hx.sound hps (Xs := [.nt g.start]) (mem_seqPrefixEnds_cons.mpr (.inl hmem))
  · refine (Nat.eq_zero_or_pos j).imp_right fun hj => ?_
    have hp := h.resolve_left (Nat.ne_of_gt hj)
    rcases mem_seqPrefixEnds_cons.mp (pclosed_complete hx hpc hin hm hp (Nat.zero_le _) hj) with
      h1 | ⟨_, _, hk⟩
    · exact h1
    · cases hk

end Pg
