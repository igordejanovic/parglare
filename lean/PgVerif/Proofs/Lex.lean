import PgVerif.Model.Lex
/-! Two facts about inputs that proofs of every region use: what the recognizer wrapper
`Input.matchAt` of the scanner model returns, and `InputMono`. -/
namespace Pg

/-- The recognizer wrapper is core's `Option.filter` on the match length, switched off for STOP. -/
theorem Input.matchAt_eq_filter (inp : Input) (a p : Nat) :
    inp.matchAt a p = if a = STOP then none else (inp.mlen a p).filter (0 < ·) := by
  unfold Input.matchAt
  cases inp.mlen a p with
  | none => rfl
  | some l => simp only [Option.filter_some, decide_eq_true_eq]

theorem Input.matchAt_eq_some {inp : Input} {a p l : Nat} :
    inp.matchAt a p = some l ↔ a ≠ STOP ∧ inp.mlen a p = some l ∧ 0 < l := by
  rw [Input.matchAt_eq_filter, Option.ite_none_left_eq_some, Option.filter_eq_some_iff, decide_eq_true_eq]

/-- Layout skipping never moves backwards. -/
structure InputMono (inp : Input) : Prop where
  skip_ge : ∀ p, p ≤ inp.skip p

end Pg
