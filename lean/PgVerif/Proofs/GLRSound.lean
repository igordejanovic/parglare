import PgVerif.Proofs.GLRReduce
import PgVerif.Proofs.GLRShift
import PgVerif.Proofs.GLRLookahead
import PgVerif.Proofs.GLRForest

/-!
Soundness of the GLR driver model. The rounds keep the invariant (`frontier_ok`, `mainLoop_inv`), so
what `parseGLR` accepts is a sentence (a sentence prefix when `consume_input` is off) and the run meets
no missing goto or unknown production. Packed forest: every tree obtained by choosing one possibility
per link replays over every stack that reaches the link's root (`tree_replay`, by recursion on the
tree, each choice locally right by `PossOK`); below an accepted head it derives the start symbol.
-/

namespace Pg
namespace GLR

variable {g : Grammar} {T : Table} {inp : Input}

/-- Between rounds all active heads stand at one raw position (the end `_do_shifts` shifted to). -/
def MInv (g : Grammar) (T : Table) (inp : Input) (consume : Bool) (s : GState) : Prop :=
  GInv g T inp consume s ∧ ∃ E, ∀ x ∈ s.active, (s.node x.2).pos = E

theorem frontier_ok (hw : T.wf g = true) (hidem : ∀ p, inp.skip (inp.skip p) = inp.skip p)
    {consume lexDis : Bool} (fuel : Nat) (s : GState) (h : MInv g T inp consume s) :
    MInv g T inp consume (frontier g T inp consume lexDis fuel s) ∧
      (frontier g T inp consume lexDis fuel s).crash = s.crash := by
  obtain ⟨hinv, E, hE⟩ := h
  have hP : inp.skip (inp.skip E) = inp.skip E := hidem E
  obtain ⟨q1, q2, q3⟩ := findLookaheads_ok (lexDis := lexDis) hidem hP s hinv (fun x hx => by rw [hE x hx])
  simp only [frontier]
  generalize findLookaheads T inp consume lexDis s = r at q1 q2 q3
  obtain ⟨s1, perSym⟩ := r
  simp only at q1 q2 q3 ⊢
  have h0 := List.foldlRecOn (motive := fun acc => GInv g T inp consume acc ∧
      HeadsOK inp acc (inp.skip E) perSym ∧ acc.crash = s1.crash) perSym.reverse
    (fun acc (e : Nat × List (Nat × Nat)) =>
      actorLoop g T fuel fuel
        { acc with active := e.2, forActor := (e.2.map (·.2)).reverse, traversed := [] })
    ⟨q1, q2, rfl⟩
    (by
      intro acc ⟨h1, h2, h3⟩ e he
      have hh := h2 e (List.mem_reverse.mp he)
      let S : GState := { acc with active := e.2, forActor := (e.2.map (·.2)).reverse, traversed := [] }
      have hfa : ∀ x ∈ S.forActor, ∃ y ∈ e.2, y.2 = x :=
        fun x hx => List.mem_map.mp (List.mem_reverse.mp hx)
      have hinv1 : GInv g T inp consume S := by
        refine h1.graph_eq rfl rfl (fun x hx => ⟨(hh x hx).1, (hh x hx).2.1⟩) ?_ h1.forShifter h1.accepted
        intro x hx
        obtain ⟨y, hy, rfl⟩ := hfa x hx
        exact ⟨(hh y hy).1, (hh y hy).2.2.2⟩
      have hap1 : APos inp S (inp.skip E) := by
        refine ⟨fun x hx => (hh x hx).2.2, fun x hx => ?_⟩
        obtain ⟨y, hy, rfl⟩ := hfa x hx
        exact (hh y hy).2.2.1
      obtain ⟨p1, p2, _⟩ := actorLoop_ok hw consume (inp.skip E) fuel fuel S hinv1 hap1
      exact ⟨p1, HeadsOK.grows (s := S) h2 p2.grows, p2.crash.trans h3⟩)
  obtain ⟨d1, d2, d3⟩ := doShifts_ok hw _ h0.1
  exact ⟨⟨d1, d2⟩, d3.trans (h0.2.2.trans q3)⟩

theorem mainLoop_inv {consume lexDis : Bool} (fuel : Nat) {Q : GState → Prop}
    (hstep : ∀ s, Q s → Q (frontier g T inp consume lexDis fuel s)) :
    ∀ (n : Nat) (s : GState), Q s →
      (∀ sF, mainLoop g T inp consume lexDis fuel n s = .forest sF → Q sF ∧ sF.accepted ≠ []) ∧
      (mainLoop g T inp consume lexDis fuel n s = .crash → ∃ s', Q s' ∧ s'.crash = true) := by
  intro n s
  fun_induction mainLoop g T inp consume lexDis fuel n s with
  | case1 => exact fun _ => ⟨fun _ => nofun, nofun⟩  -- out of fuel
  | case2 n s hc => exact fun hs => ⟨fun _ => nofun, fun _ => ⟨s, hs, hc⟩⟩  -- crash flag
  | case3 => exact fun _ => ⟨fun _ => nofun, nofun⟩  -- order-sensitive
  | case4 => exact fun _ => ⟨fun _ => nofun, nofun⟩  -- no head left, nothing accepted: syntax error
  | case5 n s _ _ _ hacc =>  -- no head left, something accepted: the forest
    exact fun hs => ⟨fun sF h => by cases h; exact ⟨hs, fun he => hacc (by rw [he]; rfl)⟩, nofun⟩
  | case6 n s _ _ _ ih => exact fun hs => ih (hstep s hs)  -- another round

theorem mainLoop_ok (hw : T.wf g = true) (hidem : ∀ p, inp.skip (inp.skip p) = inp.skip p)
    {consume lexDis : Bool} (fuel : Nat) :
    ∀ (n : Nat) (s sF : GState), MInv g T inp consume s →
      mainLoop g T inp consume lexDis fuel n s = .forest sF →
      GInv g T inp consume sF ∧ sF.accepted ≠ [] := by
  intro n s sF hs h
  obtain ⟨q1, q2⟩ := (mainLoop_inv fuel (fun s hs => (frontier_ok hw hidem fuel s hs).1) n s hs).1 sF h
  exact ⟨q1.1, q2⟩

theorem accepted_top (hw : T.wf g = true) {consume : Bool} {s : GState} (hinv : GInv g T inp consume s)
    {a : Nat} (ha : a ∈ s.accepted) {st : List (Nat × Tree)} {r : Nat} (hst : StackD g inp T st r)
    (htop : topOf st = (s.node a).st) (hskip : inp.skip r = inp.skip (s.node a).pos) :
    ∃ q t, st = [(q, t)] ∧ Derives g inp (.nt g.start) 0 r t ∧ (consume = true → inp.skip r = inp.len) := by
  obtain ⟨hlt, tok, htok, hacc⟩ := hinv.accepted a ha
  obtain ⟨hstop, q, t, hq, hd⟩ := hst.accept hw (by rw [htop]; exact hacc)
  obtain ⟨b1, _, b3, _⟩ := (hinv.nodes a hlt).tok tok htok
  exact ⟨q, t, hq, hd, fun hc => by rw [hskip, ← b1]; exact b3 hstop hc⟩

theorem accepted_sound (hw : T.wf g = true) {consume : Bool} (s : GState) (hinv : GInv g T inp consume s)
    (h : Nat) (hh : h ∈ s.accepted) :
    ∃ t e, Derives g inp (.nt g.start) 0 e t ∧ (consume = true → inp.skip e = inp.len) := by
  obtain ⟨st, r, hst, htop, hskip⟩ := (hinv.nodes h (hinv.accepted h hh).1).reach
  obtain ⟨_, t, _, hd, he⟩ := accepted_top hw hinv hh hst htop hskip
  exact ⟨t, r, hd, he⟩

theorem minv_init {consume : Bool} :
    MInv g T inp consume { nodes := #[{ st := 0, fr := 0, pos := 0 }], active := [(0, 0)] } := by
  refine ⟨⟨fun i hi => ?_, fun i hi => absurd hi (Nat.not_lt_zero i), fun n hn l hl => ?_, fun x hx => ?_,
    nofun, nofun, nofun, fun i hi => absurd hi (Nat.not_lt_zero i)⟩, 0, fun x hx => ?_⟩
  · obtain rfl := Nat.lt_one_iff.mp hi
    exact ⟨⟨[], 0, StackD.nil, rfl, rfl⟩, nofun⟩
  · obtain rfl := Nat.lt_one_iff.mp hn
    cases hl
  · obtain rfl := List.mem_singleton.mp hx
    exact ⟨Nat.zero_lt_one, rfl⟩
  · obtain rfl := List.mem_singleton.mp hx
    rfl

theorem parseGLR_inv (hw : T.wf g = true) (hidem : ∀ p, inp.skip (inp.skip p) = inp.skip p)
    (consume lexDis : Bool) (fuel : Nat) (sF : GState)
    (h : parseGLR g T inp consume lexDis fuel = .forest sF) :
    GInv g T inp consume sF ∧ sF.accepted ≠ [] := by
  unfold parseGLR at h
  exact mainLoop_ok hw hidem fuel fuel _ sF minv_init h

/-- **The GLR driver model never fails internally**: over a well-formed table it never meets a
reduction by an unknown production or a missing goto (the lookups that would raise in `glr.py`). -/
theorem parseGLR_nocrash (hw : T.wf g = true) (hidem : ∀ p, inp.skip (inp.skip p) = inp.skip p)
    (consume lexDis : Bool) (fuel : Nat) : parseGLR g T inp consume lexDis fuel ≠ .crash := by
  intro h
  obtain ⟨s', ⟨_, h1⟩, h2⟩ := (mainLoop_inv (lexDis := lexDis) fuel
    (Q := fun s => MInv g T inp consume s ∧ s.crash = false)
    (fun s hs => ⟨(frontier_ok hw hidem fuel s hs.1).1, (frontier_ok hw hidem fuel s hs.1).2.trans hs.2⟩)
    fuel _ ⟨minv_init, rfl⟩).2 h
  rw [h1] at h2; cases h2

/-- **Soundness of the GLR driver model**: when it answers with a forest, the input is a sentence
(with `consume_input`), and in any case a prefix of it derives from the start symbol. -/
theorem parseGLR_sound (hw : T.wf g = true) (hidem : ∀ p, inp.skip (inp.skip p) = inp.skip p)
    (consume lexDis : Bool) (fuel : Nat) (sF : GState)
    (h : parseGLR g T inp consume lexDis fuel = .forest sF) :
    (∃ t, IsPrefixParseOf g inp t) ∧ (consume = true → Sentence g inp) := by
  obtain ⟨q1, q2⟩ := parseGLR_inv hw hidem consume lexDis fuel sF h
  obtain ⟨a, ha⟩ := List.exists_mem_of_ne_nil _ q2
  obtain ⟨t, e, hd, he⟩ := accepted_sound hw sF q1 a ha
  exact ⟨⟨t, e, hd⟩, fun hc => ⟨t, e, hd, he hc⟩⟩

/-- `Replay` and `Chain` for given trees: `Replay` is `∃ t, ReplayT … t` with `t` chosen per stack, `Chain`
is `ChainT` with the trees forgotten and only their number kept. -/
def ReplayT (g : Grammar) (T : Table) (inp : Input) (rs rp hs hp : Nat) (t : Tree) : Prop :=
  ∀ st r, StackD g inp T st r → topOf st = rs → inp.skip r = inp.skip rp →
    ∃ r', StackD g inp T ((hs, t) :: st) r' ∧ inp.skip r' = inp.skip hp

def ChainT (g : Grammar) (T : Table) (inp : Input) (s : GState) (a b : Nat) (cs : List Tree) : Prop :=
  ∀ st r, StackD g inp T st r → topOf st = (s.node a).st → inp.skip r = inp.skip (s.node a).pos →
    ∃ stk r', StackD g inp T (stk ++ st) r' ∧ stk.reverse.map (·.2) = cs ∧
      topOf (stk ++ st) = (s.node b).st ∧ inp.skip r' = inp.skip (s.node b).pos

mutual
  theorem tree_replay (hw : T.wf g = true) {consume : Bool} (s : GState) (hinv : GInv g T inp consume s) :
      ∀ (t : Tree) (l : Nat), l < s.links.size → TreeOf s l t →
        ReplayT g T inp (s.node (s.link l).root).st (s.node (s.link l).root).pos
          (s.node (s.link l).head).st (s.node (s.link l).head).pos t
    | .leaf a st en, l, hl, h => by
      simp only [TreeOf] at h
      obtain ⟨w1, w2, ⟨len, w3a, w3b, w3c⟩, w4⟩ := hinv.poss l hl _ h
      intro stk r hs htop hskip
      exact ⟨en, w3c ▸ hs.shift hw (by rw [htop]; exact w1) (hskip.trans w2.symm) w3a w3b, w4.symm⟩
    | .node pid sp ep cs, l, hl, h => by
      simp only [TreeOf] at h
      obtain ⟨kids, hmem, htrees⟩ := h
      obtain ⟨pr, e, hp, hkl, hkc, ⟨x, hxr⟩, hg, hpe⟩ := hinv.poss l hl _ hmem
      intro stk0 r hs htop hskip
      obtain ⟨stk, r', h1, h2, h3, h4⟩ := trees_replay hw s hinv cs kids _ e htrees hkc stk0 r hs htop hskip
      have hlen : stk.length = pr.rhs.length := by
        rw [← List.length_reverse, ← List.length_map (f := (·.2)), h2, ← treesOf_length s cs kids htrees, hkl]
      obtain ⟨s', hgt, hst⟩ := h1.reduce_append hw hlen (by rw [h3]; exact hxr) hp
      rw [htop, hg] at hgt
      obtain rfl := Option.some.inj hgt
      have := hst sp ep
      rw [h2] at this
      exact ⟨r', this, h4.trans hpe⟩
  theorem trees_replay (hw : T.wf g = true) {consume : Bool} (s : GState) (hinv : GInv g T inp consume s) :
      ∀ (cs : List Tree) (ks : List Nat) (a b : Nat), TreesOf s ks cs → KChain inp s a ks b →
        ChainT g T inp s a b cs
    | [], _, a, b, h, hk => by
      cases hk with
      | nil _ _ _ _ hab =>
        intro st r hs htop hskip
        exact ⟨[], r, hs, rfl, htop.trans hab.1, hskip.trans hab.2⟩
      | cons => exact h.elim
    | c :: cs, _, a, b, h, hk => by
      cases hk with
      | nil => exact h.elim
      | cons _ k _ ks _ hklt hhd hrt hr rest =>
        intro st r hs htop hskip
        obtain ⟨r1, hs1, hp1⟩ := tree_replay hw s hinv c k hklt h.1 st r hs (htop.trans hr.1.symm)
          (hskip.trans hr.2.symm)
        obtain ⟨stk, r', q1, q2, q3, q4⟩ := trees_replay hw s hinv cs ks _ b h.2 rest _ r1 hs1 rfl hp1
        refine ⟨stk ++ [((s.node (s.link k).head).st, c)], r', ?_, ?_, ?_, q4⟩
        · rw [List.append_assoc]; exact q1
        · rw [List.reverse_append, List.map_append, q2]; rfl
        · rw [List.append_assoc]; exact q3
end

/-- **Soundness of the packed forest of the GLR driver model**: every tree obtained by choosing one
possibility per link below a root link (a link of an accepted head) is a derivation tree of the start
symbol over the input, of the whole input with `consume_input`. -/
theorem parseGLR_forest_sound (hw : T.wf g = true) (hidem : ∀ p, inp.skip (inp.skip p) = inp.skip p)
    (consume lexDis : Bool) (fuel : Nat) (sF : GState)
    (h : parseGLR g T inp consume lexDis fuel = .forest sF) :
    ∀ a ∈ sF.accepted, ∀ l ∈ sF.parents a, ∀ t, TreeOf sF l t →
      IsPrefixParseOf g inp t ∧ (consume = true → IsParseOf g inp t) := by
  intro a ha l hl t ht
  have hinv := (parseGLR_inv hw hidem consume lexDis fuel sF h).1
  obtain ⟨m1, m2, m3⟩ := hinv.plinks a (hinv.accepted a ha).1 l hl
  obtain ⟨st, r, hst, htop, hskip⟩ := (hinv.nodes _ (hinv.links l m1).2.1).reach
  obtain ⟨e, hs', hp'⟩ := tree_replay hw sF hinv t l m1 ht st r hst htop hskip
  obtain ⟨_, _, hq, hd, he⟩ := accepted_top hw hinv ha hs' m2 (hp'.trans m3)
  cases hq
  exact ⟨⟨e, hd⟩, fun hc => ⟨e, hd, he hc⟩⟩

theorem forestHasTree_parse (hw : T.wf g = true) (hidem : ∀ p, inp.skip (inp.skip p) = inp.skip p)
    (consume lexDis : Bool) (fuel : Nat) (sF : GState)
    (h : parseGLR g T inp consume lexDis fuel = .forest sF) (t : Tree) (ht : forestHasTree sF t = true) :
    IsPrefixParseOf g inp t ∧ (consume = true → IsParseOf g inp t) := by
  obtain ⟨a, ha, l, hl, htree⟩ := forestHasTree_sound sF t ht
  exact parseGLR_forest_sound hw hidem consume lexDis fuel sF h a ha l hl t htree

theorem go_mem (key : Nat → Sym × Nat × Nat)
    (altsOf : Sym × Nat × Nat → Nat → List ((Sym × Nat × Nat) × Nat × List (Sym × Nat × Nat)))
    (kidsOf : Nat → List Nat) (f : Nat) (todo seen : List Nat)
    (out : List ((Sym × Nat × Nat) × Nat × List (Sym × Nat × Nat))) :
    ∀ a ∈ reachableAlts.go key altsOf kidsOf f todo seen out, a ∈ out ∨ ∃ lid, a ∈ altsOf (key lid) lid := by
  fun_induction reachableAlts.go key altsOf kidsOf f todo seen out with
  | case1 | case2 => exact fun _ => Or.inl
  | case3 _ _ _ _ _ _ ih => exact ih
  | case4 _ lid _ _ _ _ ih =>
    intro a ha
    exact (ih a ha).elim (fun hb => (List.mem_append.mp hb).elim (fun h => Or.inr ⟨lid, h⟩) Or.inl) Or.inr

theorem mem_altsOf {poss : List Poss} {k : Sym × Nat × Nat} {key : Nat → Sym × Nat × Nat}
    {b : (Sym × Nat × Nat) × Nat × List (Sym × Nat × Nat)}
    (hb : b ∈ poss.filterMap (fun ps =>
      match ps with
      | .nonterm p kids => some (k, p, kids.map key)
      | .term _ _ _ => none)) :
    ∃ pid kids, Poss.nonterm pid kids ∈ poss ∧ b.2.1 = pid ∧ b.2.2 = kids.map key := by
  obtain ⟨ps, hps, hm⟩ := List.mem_filterMap.mp hb
  cases ps with
  | term _ _ _ => cases hm
  | nonterm p kids => cases hm; exact ⟨p, kids, hps, rfl, rfl⟩

/-- Production and children of every alternative that `reachableAlts` emits are those of a possibility
`nonterm pid kids` of some link (nothing is said of the alternative's own node). -/
theorem reachableAlts_from_links (T : Table) (s : GState) (fuel : Nat) :
    ∀ a ∈ reachableAlts T s fuel, ∃ lid pid kids, Poss.nonterm pid kids ∈ (s.link lid).poss ∧
      a.2.1 = pid ∧
      a.2.2 = kids.map (fun k => (T.sym (s.node (s.link k).head).st, (s.link k).s, (s.link k).e)) := by
  intro a ha
  simp only [reachableAlts] at ha
  cases hr : (List.flatMap s.parents s.accepted).getLast? with
  | none => simp only [hr] at ha; cases ha
  | some r =>
    simp only [hr] at ha
    rcases go_mem _ _ _ fuel _ _ _ a ha with hb | ⟨lid, hb⟩
    · obtain ⟨lid, _, hb⟩ := List.mem_flatMap.mp hb
      exact ⟨lid, mem_altsOf hb⟩
    · exact ⟨lid, mem_altsOf hb⟩

/-- Under the invariant every emitted alternative applies a production of the grammar to as many
children as its right-hand side has. -/
theorem reachableAlts_wellformed {consume : Bool} (s : GState) (hinv : GInv g T inp consume s) (fuel : Nat) :
    ∀ a ∈ reachableAlts T s fuel, ∃ pr, g.prod? a.2.1 = some pr ∧ a.2.2.length = pr.rhs.length := by
  intro a ha
  obtain ⟨lid, pid, kids, hmem, h1, h2⟩ := reachableAlts_from_links T s fuel a ha
  have hlt : lid < s.links.size := Nat.lt_of_not_le fun h => by
    rw [GState.link, Array.getD_eq_getD_getElem?, Array.getElem?_eq_none h] at hmem; cases hmem
  obtain ⟨pr, e, hp, hkl, _⟩ := hinv.poss lid hlt _ hmem
  exact ⟨pr, by rw [h1]; exact hp, by rw [h2, List.length_map]; exact hkl⟩

end GLR
end Pg
