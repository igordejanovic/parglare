import PgVerif.Proofs.GLRInv

/-!
The reductions keep the invariant. `reduce`, `doReductions` and `paths` call each other through two
loops; each loop is proved once against a specification of the function it calls (`DRSpec`, `RDSpec`),
`reductions_ok` closes the recursion by induction on the fuel. A reduction path is a `KChain` of links;
under the invariant it is a `Chain` (`KChain.chain`): every stack reaching its lower end extends by its
length to one reaching the reducing head, so the reduction replays on it (`replay_of_chain`). Every call
gives `Post`: invariant, `Ext`, frontier position (`APos`).
-/

namespace Pg
namespace GLR

variable {g : Grammar} {T : Table} {inp : Input}

def Chain (g : Grammar) (T : Table) (inp : Input) (s : GState) (a b k : Nat) : Prop :=
  ∀ st r, StackD g inp T st r → topOf st = (s.node a).st → inp.skip r = inp.skip (s.node a).pos →
    ∃ stk r', StackD g inp T (stk ++ st) r' ∧ stk.length = k ∧
      topOf (stk ++ st) = (s.node b).st ∧ inp.skip r' = inp.skip (s.node b).pos

/-- The links of a path replay one after the other, so a `Chain` is read off the `KChain` beside it
wherever one is asked for. -/
theorem KChain.chain {consume : Bool} {s : GState} (hinv : GInv g T inp consume s) {a b : Nat} {ks : List Nat}
    (h : KChain inp s a ks b) : Chain g T inp s a b ks.length := by
  induction h with
  | nil a b _ _ hab => exact fun st r hs ht hp => ⟨[], r, hs, rfl, ht.trans hab.1, hp.trans hab.2⟩
  | cons a k b ks _ hk _ _ hr _ ih =>
    intro st p hs ht hp
    obtain ⟨t, p1, hs1, hp1⟩ := (hinv.links k hk).2.2 st p hs (ht.trans hr.1.symm) (hp.trans hr.2.symm)
    obtain ⟨stk, p2, hs2, hl2, ht2, hp2⟩ := ih (_ :: st) p1 hs1 rfl hp1
    refine ⟨stk ++ [((s.node (s.link k).head).st, t)], p2, ?_, ?_, ?_, hp2⟩
    · rw [List.append_assoc]; exact hs2
    · rw [List.length_append, hl2]; rfl
    · rw [List.append_assoc]; exact ht2

theorem replay_of_chain (hw : T.wf g = true) (s : GState) (root head pid : Nat) (pr : Prod) (state : Nat)
    (hp : g.prod? pid = some pr) (hc : Chain g T inp s root head pr.rhs.length)
    (hx : ∃ x, Action.reduce pid ∈ T.actions (s.node head).st x)
    (hg : T.goto (s.node root).st pr.lhs = some state) (hpos : Nat) (hposeq : inp.skip hpos = inp.skip (s.node head).pos) :
    Replay g T inp (s.node root).st (s.node root).pos state hpos := by
  intro st r hs ht hpr
  obtain ⟨stk, r', h1, h2, h3, h4⟩ := hc st r hs ht hpr
  obtain ⟨x, hx⟩ := hx
  obtain ⟨s', hgt, hst⟩ := h1.reduce_append hw h2 (by rw [h3]; exact hx) hp
  rw [ht, hg] at hgt
  obtain rfl := Option.some.inj hgt
  exact ⟨_, r', hst 0 0, h4.trans hposeq.symm⟩

theorem goto_of_chain (hw : T.wf g = true) {consume : Bool} (s : GState) (hinv : GInv g T inp consume s)
    (root head pid : Nat) (pr : Prod) (hr : root < s.nodes.size) (hp : g.prod? pid = some pr)
    (hc : Chain g T inp s root head pr.rhs.length)
    (hx : ∃ x, Action.reduce pid ∈ T.actions (s.node head).st x) :
    ∃ state, T.goto (s.node root).st pr.lhs = some state := by
  obtain ⟨st, r, hs, ht, hpr⟩ := (hinv.nodes root hr).reach
  obtain ⟨stk, r', h1, h2, h3, _⟩ := hc st r hs ht hpr
  obtain ⟨x, hx⟩ := hx
  obtain ⟨s', hgt, _⟩ := h1.reduce_append hw h2 (by rw [h3]; exact hx) hp
  exact ⟨s', ht ▸ hgt⟩

/-- Frontier position `P` (skipped): the active heads stand there with a token ahead, the heads waiting
for the actor stand there. -/
def APos (inp : Input) (s : GState) (P : Nat) : Prop :=
  (∀ x ∈ s.active, inp.skip (s.node x.2).pos = P ∧ (s.node x.2).tok.isSome = true) ∧
    (∀ h ∈ s.forActor, inp.skip (s.node h).pos = P)

def Post (g : Grammar) (T : Table) (inp : Input) (consume : Bool) (P : Nat) (s s' : GState) : Prop :=
  GInv g T inp consume s' ∧ Ext s s' ∧ APos inp s' P

theorem Post.trans {consume : Bool} {P : Nat} {a b c : GState} (h1 : Post g T inp consume P a b)
    (h2 : Post g T inp consume P b c) : Post g T inp consume P a c :=
  ⟨h2.1, h1.2.1.trans h2.2.1, h2.2.2⟩

theorem Post.refl {consume : Bool} {P : Nat} {s : GState} (h : GInv g T inp consume s) (hap : APos inp s P) :
    Post g T inp consume P s s := ⟨h, Ext.refl s, hap⟩

theorem APos.ext {consume : Bool} {P : Nat} {s s' : GState} (hap : APos inp s P)
    (hinv : GInv g T inp consume s) (e : Ext s s') (hk : Keeps s s') : APos inp s' P := by
  constructor
  · intro x hx
    rw [hk.active] at hx
    exact (e.grows.head (hinv.active x hx).1 (hap.1 x hx).1 (hap.1 x hx).2).2.2
  · intro x hx
    rw [hk.forActor] at hx
    exact ((e.grows (inp := inp)).nd x (hinv.forActor x hx).1).2.trans (hap.2 x hx)

theorem Ext.link_tok {consume : Bool} {s s' : GState} (e : Ext s s') (hinv : GInv g T inp consume s) {u : Nat}
    (h : u < s.links.size ∧ (s.node (s.link u).head).tok.isSome = true) :
    u < s'.links.size ∧ (s'.node (s'.link u).head).tok.isSome = true :=
  ⟨Nat.lt_of_lt_of_le h.1 e.lsize,
    by rw [(e.lsame u h.1).1, (e.same _ (hinv.links u h.1).1).2.2.1]; exact h.2⟩

theorem post_of_graph_eq {consume : Bool} {P : Nat} {s s' : GState} (h : GInv g T inp consume s)
    (hap : APos inp s P) (hn : s'.nodes = s.nodes) (hl : s'.links = s.links) (hcr : s'.crash = s.crash)
    (ha : ∀ x ∈ s'.active, x ∈ s.active ∨ (x.2 < s.nodes.size ∧ (s.node x.2).st = x.1 ∧
      inp.skip (s.node x.2).pos = P ∧ (s.node x.2).tok.isSome = true))
    (hf : ∀ x ∈ s'.forActor, x ∈ s.forActor ∨ (x < s.nodes.size ∧ inp.skip (s.node x).pos = P ∧
      (s.node x).tok.isSome = true))
    (hs : ∀ x ∈ s'.forShifter, x ∈ s.forShifter ∨ (x.1 < s.nodes.size ∧
      ∃ t, (s.node x.1).tok = some t ∧ Action.shift x.2 ∈ T.actions (s.node x.1).st t.term))
    (hc : ∀ x ∈ s'.accepted, x ∈ s.accepted ∨ (x < s.nodes.size ∧
      ∃ t, (s.node x).tok = some t ∧ Action.accept ∈ T.actions (s.node x).st t.term)) :
    Post g T inp consume P s s' := by
  have hnode := node_of_eq hn
  exact ⟨h.graph_eq hn hl (fun x hx => (ha x hx).elim (h.active x) fun q => ⟨q.1, q.2.1⟩)
      (fun x hx => (hf x hx).elim (h.forActor x) fun q => ⟨q.1, q.2.2⟩)
      (fun x hx => (hs x hx).elim (h.forShifter x) id) (fun x hx => (hc x hx).elim (h.accepted x) id),
    Ext.of_graph_eq hn hl hcr,
    fun x hx => by rw [hnode]; exact (ha x hx).elim (hap.1 x) fun q => q.2.2,
    fun x hx => by rw [hnode]; exact (hf x hx).elim (hap.2 x) fun q => q.2.1⟩

/-- The path twice: `Chain` gives the goto and the replay, `KChain` is what `PossOK` speaks of. -/
def FrameOK (g : Grammar) (T : Table) (inp : Input) (s : GState) (head : Nat) (n : Nat) (fr : Frame) : Prop :=
  fr.node < s.nodes.size ∧ Chain g T inp s fr.node head fr.results.length ∧
    fr.results.length + fr.length = n ∧ 1 ≤ fr.length ∧ KChain inp s fr.node fr.results head

theorem FrameOK.ext {consume : Bool} {s s' : GState} {head n : Nat} {fr : Frame}
    (h : FrameOK g T inp s head n fr) (he : Ext s s') (hinv : GInv g T inp consume s') :
    FrameOK g T inp s' head n fr :=
  have hk := h.2.2.2.2.same he.grows.toSame
  ⟨Nat.lt_of_lt_of_le h.1 he.size, hk.chain hinv, h.2.2.1, h.2.2.2.1, hk⟩

/-- For the recursive `_do_reductions`. `∃ x`: a revisit reduces under another head's terminal. The head
of `upd`'s link needs a token: `neq_of_same` compares places through tokens. -/
def DRSpec (g : Grammar) (T : Table) (inp : Input) (consume : Bool) (P : Nat)
    (dr : GState → Nat → Nat → Option Nat → GState) : Prop :=
  ∀ (s : GState) (head pid : Nat) (upd : Option Nat),
    GInv g T inp consume s → APos inp s P → head < s.nodes.size →
    inp.skip (s.node head).pos = P → (s.node head).tok.isSome = true →
    (∃ x, Action.reduce pid ∈ T.actions (s.node head).st x) →
    (∀ u, upd = some u → u < s.links.size ∧ (s.node (s.link u).head).tok.isSome = true) →
    Post g T inp consume P s (dr s head pid upd)

/-- For the recursive `_reduce`, head and production fixed. `st0` pins the head's state: the caller knows
that the production reduces in the cell of the head it started from, and `s` is a later state. -/
def RDSpec (g : Grammar) (T : Table) (inp : Input) (consume : Bool) (P : Nat) (head n st0 : Nat)
    (rd : GState → Nat → List Nat → Nat → Nat → GState) : Prop :=
  ∀ (s : GState) (root : Nat) (kids : List Nat) (st en : Nat),
    GInv g T inp consume s → APos inp s P → head < s.nodes.size → (s.node head).st = st0 →
    inp.skip (s.node head).pos = P → (s.node head).tok.isSome = true → root < s.nodes.size →
    Chain g T inp s root head n → KChain inp s root kids head → kids.length = n →
    Post g T inp consume P s (rd s root kids st en)

theorem revisitFold_ok {consume : Bool} {P : Nat} {dr : GState → Nat → Nat → Option Nat → GState}
    (hdr : DRSpec g T inp consume P dr) (term lid : Nat) :
    ∀ (l : List Nat) (s : GState), GInv g T inp consume s → APos inp s P → lid < s.links.size →
      (s.node (s.link lid).head).tok.isSome = true →
      Post g T inp consume P s (revisitFold T dr term lid l s) := by
  intro l s h1 h2 hlid htok
  refine List.foldlRecOn (motive := fun acc => Post g T inp consume P s acc) l _ (Post.refl h1 h2) ?_
  intro acc hacc rs _
  cases hra : acc.headActive rs with
  | none => exact hacc
  | some rh =>
    obtain ⟨r1, r2⟩ := hacc.1.active _ (mem_of_headActive hra)
    obtain ⟨rpos, r3⟩ := hacc.2.2.1 _ (mem_of_headActive hra)
    refine hacc.trans (List.foldlRecOn (motive := fun acc2 => Post g T inp consume P acc acc2)
      (T.actions rs term) _ (Post.refl hacc.1 hacc.2.2) ?_)
    intro acc2 hp2 a ha
    cases a with
    | shift _ => exact hp2
    | accept => exact hp2
    | reduce p =>
      obtain ⟨q1, q2, q3, q4⟩ := hp2.2.1.grows.head r1 rpos r3
      exact hp2.trans (hdr acc2 rh p (some lid) hp2.1 hp2.2.2 q1 q3 q4 ⟨term, by rw [q2, r2]; exact ha⟩
        fun u hu => Option.some.inj hu ▸ (hacc.2.1.trans hp2.2.1).link_tok h1 ⟨hlid, htok⟩)

/-- Copy of the lambda of `parentsFold` (Model/GLR.lean); unifies with it by unfolding; edit together. -/
def pfStep (rd : GState → Nat → List Nat → Nat → Nat → GState) (fr : Frame) (len : Nat) (viaUpd : Bool)
    (acc : GState × List Frame × Option Nat × Bool) (par : Nat) : GState × List Frame × Option Nat × Bool :=
  let (sa, stk, lastP, trav) := acc
  let newResults := par :: fr.results
  let lastP' := match lastP with | none => some par | some x => some x
  let trav' := trav || viaUpd
  if len != 0 then
    (sa, { node := (sa.link par).root, results := newResults, length := len, lastP := lastP',
           trav := trav' } :: stk, lastP', trav')
  else if trav' then
    (rd sa (sa.link par).root newResults (sa.link par).s (sa.link (lastP'.getD par)).e,
      stk, lastP', trav')
  else (sa, stk, lastP', trav')

theorem parentsFold_ok {consume : Bool} {P : Nat} {head n st0 : Nat}
    {rd : GState → Nat → List Nat → Nat → Nat → GState}
    (hrd : RDSpec g T inp consume P head n st0 rd) (fr : Frame) (len : Nat) (viaUpd : Bool)
    (hlen : len = fr.length - 1) :
    ∀ (plist : List Nat) (sa : GState) (stk : List Frame) (lastP : Option Nat) (trav : Bool),
      GInv g T inp consume sa → APos inp sa P → head < sa.nodes.size → (sa.node head).st = st0 →
      inp.skip (sa.node head).pos = P → (sa.node head).tok.isSome = true →
      FrameOK g T inp sa head n fr → (∀ f ∈ stk, FrameOK g T inp sa head n f) →
      (∀ par ∈ plist, par < sa.links.size ∧ (sa.node (sa.link par).head).st = (sa.node fr.node).st ∧
        inp.skip (sa.node (sa.link par).head).pos = inp.skip (sa.node fr.node).pos) →
      Post g T inp consume P sa (plist.foldl (pfStep rd fr len viaUpd) (sa, stk, lastP, trav)).1 ∧
      (∀ f ∈ (plist.foldl (pfStep rd fr len viaUpd) (sa, stk, lastP, trav)).2.1,
        FrameOK g T inp (plist.foldl (pfStep rd fr len viaUpd) (sa, stk, lastP, trav)).1 head n f) := by
  intro plist sa stk lastP trav h1 h2 hh hst hpos htok hfr hstk hpl
  refine List.foldlRecOn (motive := fun (acc : GState × List Frame × Option Nat × Bool) =>
    Post g T inp consume P sa acc.1 ∧ ∀ f ∈ acc.2.1, FrameOK g T inp acc.1 head n f)
    plist _ ⟨Post.refl h1 h2, hstk⟩ ?_
  intro ⟨s1, stk1, lastP1, trav1⟩ ⟨hp1, hstk1⟩ par hpar
  have e := hp1.2.1
  obtain ⟨hh1, e1, e2, e3⟩ := e.grows.head hh hpos htok
  obtain ⟨a1, a2, a3⟩ := hpl par hpar
  obtain ⟨b1, b2, _⟩ := h1.links par a1
  have lrt : (s1.link par).root < s1.nodes.size := by
    rw [(e.lsame par a1).2]; exact Nat.lt_of_lt_of_le b2 e.size
  -- built in `sa`, where the facts are, and carried over
  have hkc : KChain inp s1 (s1.link par).root (par :: fr.results) head := by
    rw [(e.lsame par a1).2]
    exact (KChain.cons _ par _ _ b2 a1 b1 b2 (NEq.refl sa _)
      (hfr.2.2.2.2.congr_start b1 (NEq.symm ⟨a2, a3⟩))).same e.grows.toSame
  have hchain := hkc.chain hp1.1
  have hA : fr.results.length + 1 + (fr.length - 1) = n := by
    rw [Nat.add_assoc, Nat.add_sub_of_le hfr.2.2.2.1]; exact hfr.2.2.1
  subst hlen
  simp only [pfStep]
  by_cases hl0 : (fr.length - 1 != 0) = true
  · -- push a frame
    rw [if_pos hl0]
    refine ⟨hp1, fun f hf => ?_⟩
    rcases List.mem_cons.mp hf with rfl | hf
    · simp only [bne_iff_ne, ne_eq] at hl0
      exact ⟨lrt, hchain, hA, Nat.pos_of_ne_zero hl0, hkc⟩
    · exact hstk1 f hf
  · by_cases htr : (trav1 || viaUpd) = true
    · -- the path is complete: reduce
      rw [if_neg hl0, if_pos htr]
      simp only [bne_iff_ne, ne_eq, Decidable.not_not] at hl0
      have hn : fr.results.length + 1 = n := by rw [hl0] at hA; exact hA
      -- the recorded end is of no concern; naming it spares writing out the `match` inside it
      generalize (s1.link (Option.getD _ par)).e = en
      have hpost := hrd s1 (s1.link par).root (par :: fr.results) (s1.link par).s en
        hp1.1 hp1.2.2 hh1 (e1.trans hst) e2 e3 lrt
        (by rw [← hn]; exact hchain) hkc hn
      exact ⟨hp1.trans hpost, fun f hf => (hstk1 f hf).ext hpost.2.1 hpost.1⟩
    · rw [if_neg hl0, if_neg htr]
      exact ⟨hp1, hstk1⟩

/-- Nodes that `GSSNode.__eq__` identifies stand at the same place: equal tokens start at the same
skipped position. -/
theorem neq_of_same {consume : Bool} {s : GState} (hinv : GInv g T inp consume s) {a b : Nat}
    (ha : a < s.nodes.size) (hb : b < s.nodes.size) (htok : (s.node a).tok.isSome = true)
    (h : s.same a b = true) : NEq inp s a b := by
  simp only [GState.same, Bool.and_eq_true, beq_iff_eq] at h
  obtain ⟨⟨_, hst⟩, hte⟩ := h
  obtain ⟨ta, hta⟩ := Option.isSome_iff_exists.mp htok
  rw [hta] at hte
  cases htb : (s.node b).tok with
  | none => rw [htb] at hte; cases hte
  | some tb =>
    rw [htb] at hte
    simp only [tokEq, Bool.and_eq_true, beq_iff_eq] at hte
    refine ⟨hst, ?_⟩
    rw [← ((hinv.nodes a ha).tok ta hta).1, ← ((hinv.nodes b hb).tok tb htb).1]
    exact hte.1.2

theorem reductions_ok (hw : T.wf g = true) (consume : Bool) (P : Nat) :
    ∀ fuel : Nat,
      (∀ (s : GState) (head root pid : Nat) (kids : List Nat) (st en : Nat) (pr : Prod),
        GInv g T inp consume s → APos inp s P → head < s.nodes.size → root < s.nodes.size →
        inp.skip (s.node head).pos = P → (s.node head).tok.isSome = true →
        g.prod? pid = some pr → Chain g T inp s root head pr.rhs.length →
        (∃ x, Action.reduce pid ∈ T.actions (s.node head).st x) →
        KChain inp s root kids head → kids.length = pr.rhs.length →
        Post g T inp consume P s (reduce g T fuel s head root pid kids st en)) ∧
      DRSpec g T inp consume P (fun s head pid upd => doReductions g T fuel s head pid upd) ∧
      (∀ (s : GState) (head pid : Nat) (upd : Option Nat) (frames : List Frame) (pr : Prod),
        GInv g T inp consume s → APos inp s P → head < s.nodes.size →
        inp.skip (s.node head).pos = P → (s.node head).tok.isSome = true →
        g.prod? pid = some pr →
        (∃ x, Action.reduce pid ∈ T.actions (s.node head).st x) →
        (∀ u, upd = some u → u < s.links.size ∧ (s.node (s.link u).head).tok.isSome = true) →
        (∀ fr ∈ frames, FrameOK g T inp s head pr.rhs.length fr) →
        Post g T inp consume P s (paths g T fuel s head pid upd frames)) := by
  intro fuel
  induction fuel with
  | zero =>
    refine ⟨?_, ?_, ?_⟩
    · intro s head root pid kids st en pr hinv hap _ _ _ _ _ _ _ _ _
      simp only [reduce]; exact Post.refl hinv hap
    · intro s head pid upd hinv hap _ _ _ _ _
      simp only [doReductions]; exact Post.refl hinv hap
    · intro s head pid upd frames pr hinv hap _ _ _ _ _ _ _
      simp only [paths]; exact Post.refl hinv hap
  | succ fuel ih =>
    obtain ⟨ihR, ihD, ihP⟩ := ih
    refine ⟨?_, ?_, ?_⟩
    · -- `_reduce`
      intro s head root pid kids st en pr hinv hap hh hr hpos htok hp hchain hx hk hkl
      obtain ⟨state, hg⟩ := goto_of_chain hw s hinv root head pid pr hr hp hchain hx
      have hrep : ∀ p, inp.skip p = P → Replay g T inp (s.node root).st (s.node root).pos state p :=
        fun p e => replay_of_chain hw s root head pid pr state hp hchain hx hg p (e.trans hpos.symm)
      simp only [reduce, hp, hg]
      cases hah : s.headActive state with
      | some ah =>
        dsimp only
        obtain ⟨hahlt, hahst⟩ := hinv.active _ (mem_of_headActive hah)
        obtain ⟨hahpos, hahtok⟩ := hap.1 _ (mem_of_headActive hah)
        simp only at hahlt hahst hahtok hahpos
        rcases hcl : createLink s ah root st en [Poss.nonterm pid kids] with ⟨s1, created, lid⟩
        obtain ⟨c1, c2, c3, c5, c6⟩ := createLink_ok hinv st en hahlt hr
          (by rw [hahst]; exact hrep _ hahpos)
          (by
            intro p hp'
            obtain rfl := List.mem_singleton.mp hp'
            exact ⟨pr, head, hp, hkl, hk, hx, by rw [hahst]; exact hg, by rw [hpos, hahpos]⟩) hcl
        have hp1 : Post g T inp consume P s s1 := ⟨c1, c2, hap.ext hinv c2 c3⟩
        dsimp only
        cases created with
        | false => exact hp1
        | true =>
          simp only [if_true]
          cases htr : s1.traversed.find? (fun x => x.1 == state) with
          | none => exact hp1
          | some tr =>
            dsimp only
            -- whatever is revisited, from a state that may carry the order-sensitivity flag
            have revisit : ∀ (L : List Nat) (S : GState), Post g T inp consume P s1 S →
                Post g T inp consume P s1
                  (revisitFold T (fun a rh p u => doReductions g T fuel a rh p u) (S.tokTerm head) lid L
                    S) := by
              intro L S hS
              obtain ⟨h1, h2⟩ := hS.2.1.link_tok c1
                ⟨c5, by rw [c6 rfl, (c2.same ah hahlt).2.2.1]; exact hahtok⟩
              exact hS.trans (revisitFold_ok ihD _ lid L S hS.1 hS.2.2 h1 h2)
            refine hp1.trans (revisit _ _ ?_)
            split
            · exact post_of_graph_eq c1 hp1.2.2 rfl rfl rfl (fun _ => .inl) (fun _ => .inl) (fun _ => .inl)
                (fun _ => .inl)
            · exact Post.refl c1 hp1.2.2
      | none =>
        -- a new head, standing where `head` stands
        dsimp only
        have hxok : NodeOK g T inp consume
            { st := state, fr := (s.node head).fr, pos := (s.node head).pos, tok := (s.node head).tok } :=
          ⟨(hinv.nodes root hr).replay (hrep _ hpos), (hinv.nodes head hh).tok⟩
        generalize hs1 : ({ s with nodes := s.nodes.push _ } : GState) = s1
        have hn1 : s1.nodes = s.nodes.push _ := congrArg GState.nodes hs1.symm
        have pk : Keeps s s1 := hs1 ▸ ⟨rfl, rfl, rfl, rfl, rfl⟩
        obtain ⟨p1, p2, p3, hnh⟩ := pushNode_ok hinv hxok (fun _ h => nomatch h) hn1 (by rw [← hs1]) pk
        rcases hcl : createLink s1 s.nodes.size root st en [Poss.nonterm pid kids] with ⟨s2, created, lid⟩
        obtain ⟨c1, c2, c3, _, _⟩ := createLink_ok p1 st en hnh (Nat.lt_of_lt_of_le hr p2.size)
          (by rw [(p2.same root hr).1, (p2.same root hr).2.1, p3]; exact hrep _ hpos)
          (by
            intro p hp'
            obtain rfl := List.mem_singleton.mp hp'
            obtain ⟨x, hx⟩ := hx
            exact ⟨pr, head, hp, hkl, hk.same p2.grows.toSame, ⟨x, by rw [(p2.same head hh).1]; exact hx⟩,
              by rw [(p2.same root hr).1, p3]; exact hg, by rw [(p2.same head hh).2.1, p3]⟩) hcl
        dsimp only
        -- the new head enters the work lists: it stands at `P`, with `head`'s token
        obtain ⟨hnh2, e1, e2, e3⟩ :=
          c2.grows.head (P := P) hnh (by rw [p3]; exact hpos) (by rw [p3]; exact htok)
        rw [p3] at e1
        have hp2 : Post g T inp consume P s s2 := ⟨c1, p2.trans c2, hap.ext hinv (p2.trans c2) (pk.trans c3)⟩
        exact hp2.trans (post_of_graph_eq c1 hp2.2.2 rfl rfl rfl
          (List.forall_mem_append.mpr ⟨fun _ => .inl, List.forall_mem_singleton.mpr (.inr ⟨hnh2, e1, e2, e3⟩)⟩)
          (List.forall_mem_cons.mpr ⟨.inr ⟨hnh2, e2, e3⟩, fun _ => .inl⟩) (fun _ => .inl) (fun _ => .inl))
    · -- `_do_reductions`
      intro s head pid upd hinv hap hh hpos htok hx hupd
      obtain ⟨pr, hp, _⟩ := hx.elim fun _ h => (wf_state hw (hinv.st_lt hw hh)).reduce h
      simp only [doReductions, hp]
      have hk0 : KChain inp s head [] head := .nil _ _ hh hh (NEq.refl s head)
      by_cases hemp : pr.rhs.isEmpty = true
      · rw [if_pos hemp]
        have hlen0 : pr.rhs.length = 0 := by rw [List.isEmpty_iff.mp hemp]; rfl
        exact ihR s head head pid [] _ _ pr hinv hap hh hh hpos htok hp
          (by rw [hlen0]; exact hk0.chain hinv) hx hk0 hlen0.symm
      · rw [if_neg hemp]
        refine ihP s head pid upd _ pr hinv hap hh hpos htok hp hx hupd ?_
        intro fr hfr
        obtain rfl := List.mem_singleton.mp hfr
        exact ⟨hh, hk0.chain hinv, Nat.zero_add _,
          Nat.pos_of_ne_zero (fun h0 => hemp (List.isEmpty_iff.mpr (List.length_eq_zero_iff.mp h0))), hk0⟩
    · -- the path search
      intro s head pid upd frames pr hinv hap hh hpos htok hp hx hupd hframes
      cases frames with
      | nil => simp only [paths]; exact Post.refl hinv hap
      | cons fr rest =>
        have hfr := hframes fr (List.mem_cons_self ..)
        have hrd : RDSpec g T inp consume P head pr.rhs.length (s.node head).st
            (fun sa root kids st en => reduce g T fuel sa head root pid kids st en) := by
          intro sa root kids st en h1 h2 h3 h4 h5 h6 h7 h8 h9 h10
          exact ihR sa head root pid kids st en pr h1 h2 h3 h7 h5 h6 hp h8 (by rw [h4]; exact hx) h9 h10
        -- whatever parents are followed from `fr.node`, each is a link whose head stands where it stands
        have follow : ∀ (s0 : GState) (viaUpd : Bool) (plist : List Nat) r, Post g T inp consume P s s0 →
            (∀ par ∈ plist, par < s0.links.size ∧ (s0.node (s0.link par).head).st = (s0.node fr.node).st ∧
              inp.skip (s0.node (s0.link par).head).pos = inp.skip (s0.node fr.node).pos) →
            parentsFold (fun sa root kids st en => reduce g T fuel sa head root pid kids st en) fr
              (fr.length - 1) viaUpd plist (s0, rest, fr.lastP, fr.trav) = r →
            Post g T inp consume P s (paths g T fuel r.1 head pid upd r.2.1) := by
          intro s0 viaUpd plist r hpost0 hplist hr
          have e0 := hpost0.2.1
          obtain ⟨hh0, e01, e02, e03⟩ := e0.grows.head hh hpos htok
          obtain ⟨q1, q2⟩ := parentsFold_ok hrd fr (fr.length - 1) viaUpd rfl plist s0 rest fr.lastP fr.trav
            hpost0.1 hpost0.2.2 hh0 e01 e02 e03 (hfr.ext e0 hpost0.1)
            (fun f hf => (hframes f (List.mem_cons_of_mem _ hf)).ext e0 hpost0.1) hplist
          subst hr
          have eall := e0.trans q1.2.1
          obtain ⟨hha, ea1, ea2, ea3⟩ := eall.grows.head hh hpos htok
          exact hpost0.trans (q1.trans (ihP _ head pid upd _ pr q1.1 q1.2.2 hha ea2 ea3 hp (by rw [ea1]; exact hx)
            (fun u hu => eall.link_tok hinv (hupd u hu)) q2))
        rw [paths.eq_def]
        dsimp only
        -- the `states_traversed` update
        generalize hS0 : (if ((s.node fr.node).fr == (s.node head).fr) = true
            then ({ s with traversed := addTraversed s.traversed (s.node fr.node).st (s.node head).st }
              : GState)
            else s) = s0
        have hpost0 : Post g T inp consume P s s0 := by
          rw [← hS0]
          split
          · exact post_of_graph_eq hinv hap rfl rfl rfl (fun _ => .inl) (fun _ => .inl) (fun _ => .inl)
              (fun _ => .inl)
          · exact Post.refl hinv hap
        have hfr0 := Nat.lt_of_lt_of_le hfr.1 hpost0.2.1.size
        have hparents := hpost0.1.plinks fr.node hfr0
        cases upd with
        | none => exact follow s0 false _ _ hpost0 hparents rfl
        | some u =>
          dsimp only
          refine follow s0 _ _ _ hpost0 (fun par hpar => ?_) rfl
          split at hpar
          · next hv =>
            obtain rfl := List.mem_singleton.mp hpar
            obtain ⟨hult0, hutok0⟩ := hpost0.2.1.link_tok hinv (hupd par rfl)
            exact ⟨hult0, neq_of_same hpost0.1 (hpost0.1.links par hult0).1 hfr0 hutok0 hv⟩
          · exact hparents par hpar

theorem actor_ok (hw : T.wf g = true) (consume : Bool) (P fuel : Nat) (s : GState) (head : Nat)
    (hinv : GInv g T inp consume s) (hap : APos inp s P) (hh : head < s.nodes.size)
    (hpos : inp.skip (s.node head).pos = P) (htok : (s.node head).tok.isSome = true) :
    Post g T inp consume P s (actor g T fuel s head) := by
  unfold actor
  obtain ⟨t, ht⟩ := Option.isSome_iff_exists.mp htok
  rw [tokTerm_of_tok ht]
  refine List.foldlRecOn (motive := fun acc => Post g T inp consume P s acc) _ _ (Post.refl hinv hap) ?_
  intro acc hacc a ha
  obtain ⟨e1, _, e3, _⟩ := hacc.2.1.same head hh
  obtain ⟨hh', _, hpos', htok'⟩ := hacc.2.1.grows.head hh hpos htok
  have hcell : ∃ t, (acc.node head).tok = some t ∧ a ∈ T.actions (acc.node head).st t.term :=
    ⟨t, by rw [e3]; exact ht, by rw [e1]; exact ha⟩
  refine hacc.trans ?_
  cases a with
  | shift s' =>
    exact post_of_graph_eq hacc.1 hacc.2.2 rfl rfl rfl (fun _ => .inl) (fun _ => .inl)
      (List.forall_mem_append.mpr ⟨fun _ => .inl, List.forall_mem_singleton.mpr (.inr ⟨hh', hcell⟩)⟩)
      (fun _ => .inl)
  | reduce p =>
    exact (reductions_ok hw consume P fuel).2.1 acc head p none hacc.1 hacc.2.2 hh' hpos' htok'
      ⟨t.term, by rw [e1]; exact ha⟩ (fun u hu => nomatch hu)
  | accept =>
    exact post_of_graph_eq hacc.1 hacc.2.2 rfl rfl rfl (fun _ => .inl) (fun _ => .inl) (fun _ => .inl)
      (List.forall_mem_append.mpr ⟨fun _ => .inl, List.forall_mem_singleton.mpr (.inr ⟨hh', hcell⟩)⟩)

theorem actorLoop_ok (hw : T.wf g = true) (consume : Bool) (P fuel : Nat) :
    ∀ (n : Nat) (s : GState), GInv g T inp consume s → APos inp s P →
      Post g T inp consume P s (actorLoop g T fuel n s) := by
  intro n s h1 h2
  fun_induction actorLoop g T fuel n s with
  | case1 s => exact Post.refl h1 h2
  | case2 n s hfa => exact Post.refl h1 h2
  | case3 n s head rest hfa ih =>
    have hmem : head ∈ s.forActor := by rw [hfa]; exact List.mem_cons_self ..
    obtain ⟨hh, htok⟩ := h1.forActor head hmem
    have hp0 : Post g T inp consume P s { s with forActor := rest } :=
      post_of_graph_eq h1 h2 rfl rfl rfl (fun _ => .inl)
        (fun x hx => .inl (by rw [hfa]; exact List.mem_cons_of_mem _ hx)) (fun _ => .inl) (fun _ => .inl)
    have hp1 := actor_ok (fuel := fuel) hw consume P _ head hp0.1 hp0.2.2 hh (h2.2 head hmem) htok
    exact hp0.trans (hp1.trans (ih hp1.1 hp1.2.2))

end GLR
end Pg
