import PgVerif.Proofs.GLRInv

/-!
`_do_shifts` keeps the invariant. A shifted head is new or shared by target state; a further link into
a shared head reuses the token edges of the head's first link when that starts where the shifting head
stands. Sound because a link into a shifted head holds token edges only (a goto leads to a nonterminal's
state) and, made in this round, starts where its root stands (`SNode`; `SInv`, `E` the raw end shifted to).
-/

namespace Pg
namespace GLR

variable {g : Grammar} {T : Table} {inp : Input}

theorem replay_shift (hw : T.wf g = true) {consume : Bool} (q p toState : Nat) (t : Tok)
    (htok : TokOK inp consume p t) (hx : Action.shift toState ∈ T.actions q t.term) :
    Replay g T inp q p toState (p + t.len) := by
  intro st r hs htop hskip
  obtain ⟨h1, h2, _, h4⟩ := htok
  subst htop
  obtain ⟨hm1, hm2⟩ := h2 ((wf_state hw (hs.top_lt (wf_pos hw))).shift hx).2.2.2
  rw [h1, h4] at hm1
  exact ⟨_, _, hs.shift hw hx (hskip.trans h4) hm1 hm2, rfl⟩

theorem mem_insertDesc (s : GState) (x y : Nat × Nat) (l : List (Nat × Nat)) (h : y ∈ insertDesc s x l) :
    y = x ∨ y ∈ l := by
  fun_induction insertDesc s x l with
  | case1 => exact Or.inl (List.mem_singleton.mp h)
  | case2 z zs hlt => exact List.mem_cons.mp h
  | case3 z zs hlt ih =>
    exact (List.mem_cons.mp h).elim (fun e => Or.inr (e ▸ List.mem_cons_self)) fun h =>
      (ih h).imp_right (List.mem_cons_of_mem _)

theorem mem_sortDesc (s : GState) (l : List (Nat × Nat)) : ∀ y ∈ sortDesc s l, y ∈ l := by
  refine List.foldlRecOn (motive := fun acc => ∀ y ∈ acc, y ∈ l) l _ (fun _ h => nomatch h) ?_
  intro acc hacc x hx y hy
  rcases mem_insertDesc s x y acc hy with rfl | h
  · exact hx
  · exact hacc y h

def SNode (s : GState) (n : Nat) : Prop :=
  ∀ i ∈ (s.node n).plinks, (s.link i).s = (s.node (s.link i).root).pos

theorem createLink_snode {consume : Bool} {s : GState} (hinv : GInv g T inp consume s) {sh hd a : Nat}
    (b : Nat) {ps : List Poss} (hsh : sh < s.nodes.size) (ha : a = (s.node hd).pos)
    {s1 : GState} {created : Bool} {lid : Nat} (h : createLink s sh hd a b ps = (s1, created, lid)) :
    (∀ n, n < s.nodes.size → SNode s n → SNode s1 n) ∧ (s1.node sh).plinks ≠ [] ∧
      (∀ n, n ≠ sh → (s1.node n).plinks = (s.node n).plinks) := by
  obtain ⟨-, ⟨hi, -, -, hn, hl, -⟩ | ⟨hn, hl, -, rfl⟩⟩ := createLink_cases h
  · -- merged: start and root of every link stay
    have hnode := node_of_eq hn
    have hlI := link_set_eq hl (hinv.plinks sh hsh lid hi).1
    refine ⟨?_, ?_, fun n _ => by rw [hnode]⟩
    · intro n hn hSn l hl'
      rw [hnode] at hl' ⊢
      by_cases hli : l = lid
      · subst hli; rw [hlI]; exact hSn l hl'
      · rw [link_set_ne hl hli]; exact hSn l hl'
    · rw [hnode]; intro he; rw [GState.parents, he] at hi; cases hi
  · have hnH : s1.node sh = { s.node sh with plinks := (s.node sh).plinks ++ [s.links.size] } :=
      node_set_eq hn hsh
    have hnO : ∀ k, k ≠ sh → s1.node k = s.node k := fun k hk => node_set_ne hn hk
    have hnodepos : ∀ k, (s1.node k).pos = (s.node k).pos := by
      intro k
      by_cases hk : k = sh
      · subst hk; rw [hnH]
      · rw [hnO k hk]
    refine ⟨?_, by rw [hnH]; exact List.append_ne_nil_of_right_ne_nil _ (List.cons_ne_nil _ _),
      fun n hn => by rw [hnO n hn]⟩
    intro n hn hSn l hl'
    have hcases : l ∈ (s.node n).plinks ∨ l = s.links.size := by
      by_cases hk : n = sh
      · subst hk
        rw [hnH] at hl'
        exact (List.mem_append.mp hl').imp id List.mem_singleton.mp
      · rw [hnO n hk] at hl'; exact Or.inl hl'
    rcases hcases with hl' | rfl
    · rw [link_push_lt hl (hinv.plinks n hn l hl').1, hnodepos]
      exact hSn l hl'
    · rw [link_push_eq hl, hnodepos]
      exact ha

/-- Copy of the lambda of `doShifts` (Model/GLR.lean); unifies with it by unfolding; edit together. -/
def shiftStep (acc : GState) (hs : Nat × Nat) : GState :=
  let (head, toState) := hs
  let H := acc.node head
  let tend := tokEnd acc head
  let term := acc.tokTerm head
  match acc.headActive toState with
  | some sh =>
    let first := acc.link (((acc.node sh).plinks).headD 0)
    if first.s == H.pos then (createLink acc sh head first.s first.e first.poss).1
    else (createLink acc sh head H.pos tend [Poss.term term H.pos tend]).1
  | none =>
    let sh := acc.nodes.size
    let acc1 := { acc with nodes := acc.nodes.push { st := toState, fr := H.fr + 1, pos := tend },
                           active := acc.active ++ [(toState, sh)] }
    (createLink acc1 sh head H.pos tend [Poss.term term H.pos tend]).1

def SInv (s : GState) (E : Nat) : Prop :=
  ∀ x ∈ s.active, (s.node x.2).pos = E ∧ (s.node x.2).plinks ≠ [] ∧ SNode s x.2

/-- `hact` is `SInv S E` without "has links" for `sh` itself: a head pushed a moment ago has no link
yet; after this one it has. -/
theorem shiftLink_ok {consume : Bool} {S : GState} (hinv : GInv g T inp consume S) {sh head a b E : Nat}
    {c : List Poss} (hsh : sh < S.nodes.size) (hh : head < S.nodes.size)
    (hrep : Replay g T inp (S.node head).st (S.node head).pos (S.node sh).st (S.node sh).pos)
    (hc1 : ∀ p ∈ c, PossOK g T inp S sh head p) (ha : a = (S.node head).pos)
    (hact : ∀ x ∈ S.active, (S.node x.2).pos = E ∧ SNode S x.2 ∧ (x.2 ≠ sh → (S.node x.2).plinks ≠ []))
    {s1 : GState} (h : (createLink S sh head a b c).1 = s1) :
    GInv g T inp consume s1 ∧ Ext S s1 ∧ SInv s1 E := by
  rcases hcl : createLink S sh head a b c with ⟨r, created, lid⟩
  rw [hcl] at h
  subst h
  obtain ⟨c1, c2, c3, _, _⟩ := createLink_ok hinv a b hsh hh hrep hc1 hcl
  obtain ⟨d1, d2, d3⟩ := createLink_snode hinv b hsh ha hcl
  refine ⟨c1, c2, fun x hx => ?_⟩
  rw [c3.active] at hx
  obtain ⟨q0, q2, q1⟩ := hact x hx
  have hxlt := (hinv.active x hx).1
  refine ⟨by rw [(c2.same x.2 hxlt).2.1]; exact q0, ?_, d1 x.2 hxlt q2⟩
  by_cases hxs : x.2 = sh
  · rw [hxs]; exact d2
  · rw [d3 x.2 hxs]; exact q1 hxs

theorem shiftStep_ok (hw : T.wf g = true) {consume : Bool} (acc : GState) (head toState E : Nat) (t : Tok)
    (hinv : GInv g T inp consume acc) (hh : head < acc.nodes.size) (ht : (acc.node head).tok = some t)
    (hx : Action.shift toState ∈ T.actions (acc.node head).st t.term) (hE : (acc.node head).pos + t.len = E)
    (hS : SInv acc E) {s1 : GState} (h : shiftStep acc (head, toState) = s1) :
    GInv g T inp consume s1 ∧ Ext acc s1 ∧ SInv s1 E := by
  have hTok := (hinv.nodes head hh).tok t ht
  have hrep0 : Replay g T inp (acc.node head).st (acc.node head).pos toState E := by
    rw [← hE]; exact replay_shift hw _ _ _ t hTok hx
  have htend : tokEnd acc head = E := by simp only [tokEnd, ht]; exact hE
  obtain ⟨_, _, hsymT, hneS⟩ := (wf_state hw (hinv.st_lt hw hh)).shift hx
  obtain ⟨k1, k2, _, k4⟩ := hTok
  obtain ⟨hm1, hm2⟩ := k2 hneS
  have hts : t.s = (acc.node head).pos := by rw [k1, k4]
  -- the head's own token edge as a possibility of a link from a node in `toState` at `E`
  have hterm : ∀ (S : GState) (n : Nat), Ext acc S → (S.node n).st = toState → (S.node n).pos = E →
      ∀ p ∈ [Poss.term (acc.tokTerm head) (acc.node head).pos (tokEnd acc head)],
        PossOK g T inp S n head p := by
    intro S n e e3 e4 p hp
    obtain rfl := List.mem_singleton.mp hp
    rw [tokTerm_of_tok ht]
    exact ⟨by rw [(e.same head hh).1, e3]; exact hx, by rw [(e.same head hh).2.1]; exact k4.symm,
      ⟨t.len, by rw [← hts]; exact hm1, hm2, by rw [htend, ← hE]⟩, by rw [e4, htend]⟩
  simp only [shiftStep] at h
  cases hsh : acc.headActive toState with
  | some sh =>
    rw [hsh] at h
    simp only at h
    have hmem := mem_of_headActive hsh
    obtain ⟨hshlt, hshst⟩ := hinv.active _ hmem
    obtain ⟨hshpos, hshne, hshS⟩ := hS _ hmem
    simp only at hshlt hshst hshpos hshne hshS
    have hrep : Replay g T inp (acc.node head).st (acc.node head).pos (acc.node sh).st (acc.node sh).pos := by
      rw [hshst, hshpos]; exact hrep0
    have hSact : ∀ x ∈ acc.active, (acc.node x.2).pos = E ∧ SNode acc x.2 ∧
        (x.2 ≠ sh → (acc.node x.2).plinks ≠ []) :=
      fun x hx' => ⟨(hS x hx').1, (hS x hx').2.2, fun _ => (hS x hx').2.1⟩
    by_cases hfs : ((acc.link ((acc.node sh).plinks.headD 0)).s == (acc.node head).pos) = true
    · -- a further link into a shared head: the first link's token edges are reused
      rw [if_pos hfs] at h
      rw [beq_iff_eq] at hfs
      obtain ⟨l0, hl0mem, hl0eq⟩ : ∃ l0, l0 ∈ (acc.node sh).plinks ∧ (acc.node sh).plinks.headD 0 = l0 := by
        cases hpl : (acc.node sh).plinks with
        | nil => exact absurd hpl hshne
        | cons a rest => exact ⟨a, List.mem_cons_self .., rfl⟩
      rw [hl0eq] at hfs h
      obtain ⟨m1, m2, m3⟩ := hinv.plinks sh hshlt l0 hl0mem
      have hrt := hinv.st_lt hw (hinv.links l0 m1).2.1
      refine shiftLink_ok hinv hshlt hh hrep ?_ hfs hSact h
      intro p hp
      cases p with
      | nonterm pid kids =>
        obtain ⟨pr, _, _, _, _, _, w5, _⟩ := hinv.poss l0 m1 _ hp
        have hsym' := ((wf_state hw hrt).goto w5).2.2
        rw [m2, hshst, hsymT] at hsym'
        cases hsym'
      | term a0 st en =>
        obtain ⟨w1, w2, w3, w4⟩ := hinv.poss l0 m1 _ hp
        -- the terminal is the head's token symbol: both access the shifted state
        have hsym' := ((wf_state hw hrt).shift w1).2.2.1
        rw [m2, hshst, hsymT] at hsym'
        obtain rfl : t.term = a0 := by injection hsym'
        exact ⟨by rw [hshst]; exact hx, by rw [w2, ← hshS l0 hl0mem, hfs], w3, by rw [← m3]; exact w4⟩
    · rw [if_neg hfs] at h
      exact shiftLink_ok hinv hshlt hh hrep (hterm acc sh (Ext.refl acc) hshst hshpos) rfl hSact h
  | none =>
    rw [hsh] at h
    simp only at h
    -- `pushNode_ok` wants the work lists kept, the model enters the new head in `active` at once:
    -- so `pushNode_ok` on the state with the old `active`, then the entry by `graph_eq`
    have hxok : NodeOK g T inp consume
        { st := toState, fr := (acc.node head).fr + 1, pos := tokEnd acc head } :=
      ⟨(hinv.nodes head hh).replay (htend ▸ hrep0), fun _ h => nomatch h⟩
    generalize hS1 : ({ acc with nodes := acc.nodes.push _,
                                 active := acc.active ++ [(toState, acc.nodes.size)] } : GState) = S at h
    have hn1 : S.nodes = acc.nodes.push _ := congrArg GState.nodes hS1.symm
    have hl1 : S.links = acc.links := hS1 ▸ rfl
    have hact1 : S.active = acc.active ++ [(toState, acc.nodes.size)] := hS1 ▸ rfl
    obtain ⟨p1, p2, (p3 : S.node acc.nodes.size = _), (hlt1 : acc.nodes.size < S.nodes.size)⟩ :=
      pushNode_ok hinv hxok (fun _ h => nomatch h) (s1 := { S with active := acc.active })
        hn1 hl1 (hS1 ▸ ⟨rfl, rfl, rfl, rfl, rfl⟩)
    -- `p2` is about the state with the old `active`, which `Ext` does not look at: same fields
    have hext1 : Ext acc S := ⟨p2.size, p2.same, p2.lsize, p2.lsame, p2.crash⟩
    have hinv1 : GInv g T inp consume S := by
      refine p1.graph_eq rfl rfl ?_ p1.forActor p1.forShifter p1.accepted
      intro y hy
      rw [hact1] at hy
      rcases List.mem_append.mp hy with hy | hy
      · exact p1.active y hy
      · obtain rfl := List.mem_singleton.mp hy
        exact ⟨hlt1, by show (S.node acc.nodes.size).st = toState; rw [p3]⟩
    -- old heads keep their shift links, the new one has none yet
    have hSact : ∀ y ∈ S.active, (S.node y.2).pos = E ∧ SNode S y.2 ∧
        (y.2 ≠ acc.nodes.size → (S.node y.2).plinks ≠ []) := by
      intro y hy
      rw [hact1] at hy
      rcases List.mem_append.mp hy with hy | hy
      · have hy1 := (hinv.active y hy).1
        obtain ⟨q0, q1, q2⟩ := hS y hy
        have hny : S.node y.2 = acc.node y.2 := node_push_lt hn1 hy1
        refine ⟨by rw [hny]; exact q0, ?_, fun _ => by rw [hny]; exact q1⟩
        intro l hl
        rw [hny] at hl
        rw [link_of_eq hl1, node_push_lt hn1 (hinv.links l (hinv.plinks _ hy1 l hl).1).2.1]
        exact q2 l hl
      · obtain rfl := List.mem_singleton.mp hy
        exact ⟨by rw [p3]; exact htend, fun l hl => (by rw [p3] at hl; cases hl), fun h => absurd rfl h⟩
    obtain ⟨q1, q2, q3⟩ := shiftLink_ok hinv1 hlt1 (Nat.lt_of_lt_of_le hh hext1.size)
      (by rw [(hext1.same head hh).1, (hext1.same head hh).2.1, p3]; exact htend ▸ hrep0)
      (hterm S _ hext1 (by rw [p3]) (by rw [p3]; exact htend)) (hext1.same head hh).2.1.symm hSact h
    exact ⟨q1, hext1.trans q2, q3⟩

theorem doShifts_ok (hw : T.wf g = true) {consume : Bool} (s : GState) (hinv : GInv g T inp consume s) :
    GInv g T inp consume (doShifts s) ∧
      (∃ E, ∀ x ∈ (doShifts s).active, ((doShifts s).node x.2).pos = E) ∧ (doShifts s).crash = s.crash := by
  simp only [doShifts]
  cases hl : (sortDesc s s.forShifter).getLast? with
  | none =>
    dsimp only
    exact ⟨hinv.graph_eq rfl rfl nofun hinv.forActor nofun hinv.accepted, ⟨0, nofun⟩, rfl⟩
  | some last =>
    dsimp only
    generalize hE : tokEnd s last.1 = E
    generalize hr : List.foldl _ _ _ = r
    have hres : GInv g T inp consume r ∧ Ext s r ∧ SInv r E := hr ▸ List.foldlRecOn
      (motive := fun acc => GInv g T inp consume acc ∧ Ext s acc ∧ SInv acc E) _ shiftStep
      ⟨hinv.graph_eq rfl rfl nofun hinv.forActor
          (fun x hx => hinv.forShifter x (mem_sortDesc s _ x (List.mem_filter.mp hx).1)) hinv.accepted,
        Ext.of_graph_eq rfl rfl rfl, nofun⟩
      (by
        intro acc ⟨h1, h2, h3⟩ y hy
        simp only [List.mem_reverse, List.mem_filter, beq_iff_eq] at hy
        obtain ⟨hh, t, ht, hx⟩ := hinv.forShifter y (mem_sortDesc s _ y hy.1)
        obtain ⟨e1, e2, e3, _⟩ := h2.same y.1 hh
        have hEy : (s.node y.1).pos + t.len = E := by
          have := hy.2; simp only [tokEnd, ht] at this; exact this
        obtain ⟨q1, q2, q3⟩ := shiftStep_ok hw acc y.1 y.2 E t h1 (Nat.lt_of_lt_of_le hh h2.size)
          (by rw [e3]; exact ht) (by rw [e1]; exact hx) (by rw [e2]; exact hEy) h3 rfl
        exact ⟨q1, h2.trans q2, q3⟩)
    exact ⟨hres.1, ⟨E, fun x hx => (hres.2.2 x hx).1⟩, hres.2.1.crash⟩

end GLR
end Pg
