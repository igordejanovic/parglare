import PgVerif.Model.GLR
import PgVerif.Proofs.LRSound

/-!
The invariant of the GLR driver model. It says nothing about packing or about which reductions the
driver chooses, only that every node of the graph-structured stack is *reachable* (some stack of
derivation trees over the tokens read ends in its state at its position, `StackD`), every link is
*replayable* (such a stack ending at the link's root extends by one entry to one ending at its head)
and every packed possibility is locally right (`PossOK`). Only states, positions up to layout and link
ends occur, so later edits of the graph keep it: `GInv.graph_eq` when only work lists change,
`GInv.grow` for a grown graph, of which the driver's graph edits are instances.
-/

namespace Pg

namespace GLR

variable {g : Grammar} {T : Table} {inp : Input}

/-- Last conjunct: a node with a token stands behind the layout; it turns `t.s` into the raw `pos`
(`replay_shift`, the test `first.s == H.pos`). -/
def TokOK (inp : Input) (consume : Bool) (pos : Nat) (t : Tok) : Prop :=
  t.s = inp.skip pos ∧ (t.term ≠ STOP → inp.mlen t.term t.s = some t.len ∧ 0 < t.len) ∧
    (t.term = STOP → consume = true → t.s = inp.len) ∧ inp.skip pos = pos

structure NodeOK (g : Grammar) (T : Table) (inp : Input) (consume : Bool) (n : GNode) : Prop where
  reach : ∃ st r, StackD g inp T st r ∧ topOf st = n.st ∧ inp.skip r = inp.skip n.pos
  tok : ∀ t, n.tok = some t → TokOK inp consume n.pos t

def Replay (g : Grammar) (T : Table) (inp : Input) (rootSt rootPos headSt headPos : Nat) : Prop :=
  ∀ st r, StackD g inp T st r → topOf st = rootSt → inp.skip r = inp.skip rootPos →
    ∃ t r', StackD g inp T ((headSt, t) :: st) r' ∧ inp.skip r' = inp.skip headPos

theorem NodeOK.replay {consume : Bool} {n : GNode} (h : NodeOK g T inp consume n) {q p : Nat}
    (hrep : Replay g T inp n.st n.pos q p) :
    ∃ st r, StackD g inp T st r ∧ topOf st = q ∧ inp.skip r = inp.skip p := by
  obtain ⟨st0, r0, hs0, ht0, hp0⟩ := h.reach
  obtain ⟨t, r', hs', hp'⟩ := hrep st0 r0 hs0 ht0 hp0
  exact ⟨_, r', hs', rfl, hp'⟩

def NEq (inp : Input) (s : GState) (a b : Nat) : Prop :=
  (s.node a).st = (s.node b).st ∧ inp.skip (s.node a).pos = inp.skip (s.node b).pos

theorem NEq.refl (s : GState) (a : Nat) : NEq inp s a a := ⟨rfl, rfl⟩

theorem NEq.symm {s : GState} {a b : Nat} (h : NEq inp s a b) : NEq inp s b a := ⟨h.1.symm, h.2.symm⟩

theorem NEq.trans {s : GState} {a b c : Nat} (h1 : NEq inp s a b) (h2 : NEq inp s b c) : NEq inp s a c :=
  ⟨h1.1.trans h2.1, h1.2.trans h2.2⟩

/-- `ks` is a path of links from node `a` (below) up to node `b`, joints up to `NEq`. -/
inductive KChain (inp : Input) (s : GState) : Nat → List Nat → Nat → Prop where
  | nil (a b : Nat) (ha : a < s.nodes.size) (hb : b < s.nodes.size) (h : NEq inp s a b) : KChain inp s a [] b
  | cons (a k b : Nat) (ks : List Nat) (ha : a < s.nodes.size) (hk : k < s.links.size)
      (hhd : (s.link k).head < s.nodes.size) (hrt : (s.link k).root < s.nodes.size)
      (hr : NEq inp s (s.link k).root a) (rest : KChain inp s (s.link k).head ks b) :
      KChain inp s a (k :: ks) b

theorem KChain.congr_start {s : GState} {a a' b : Nat} {ks : List Nat} (h : KChain inp s a ks b)
    (ha' : a' < s.nodes.size) (he : NEq inp s a a') : KChain inp s a' ks b := by
  cases h with
  | nil _ _ ha hb h => exact .nil _ _ ha' hb (he.symm.trans h)
  | cons _ k _ ks ha hk hhd hrt hr rest => exact .cons _ k _ ks ha' hk hhd hrt (hr.trans he) rest

theorem KChain.congr_end {s : GState} {a b b' : Nat} {ks : List Nat} (h : KChain inp s a ks b)
    (hb' : b' < s.nodes.size) (he : NEq inp s b b') : KChain inp s a ks b' := by
  induction h with
  | nil a b ha hb h => exact .nil _ _ ha hb' (h.trans he)
  | cons a k b ks ha hk hhd hrt hr _ ih => exact .cons _ k _ ks ha hk hhd hrt hr (ih he)

/-- A possibility of a link from `hd` down to `rt`: a shifted token edge, or a production with a path of
child links from `rt` up to a node `e` standing where `hd` stands and reducing by it; `rt`'s goto is
`hd`'s state. -/
def PossOK (g : Grammar) (T : Table) (inp : Input) (s : GState) (hd rt : Nat) : Poss → Prop
  | .term a st en => Action.shift (s.node hd).st ∈ T.actions (s.node rt).st a ∧ st = inp.skip (s.node rt).pos ∧
      (∃ l, inp.mlen a st = some l ∧ 0 < l ∧ en = st + l) ∧ inp.skip (s.node hd).pos = inp.skip en
  | .nonterm pid kids => ∃ pr e, g.prod? pid = some pr ∧ kids.length = pr.rhs.length ∧ KChain inp s rt kids e ∧
      (∃ x, Action.reduce pid ∈ T.actions (s.node e).st x) ∧
      T.goto (s.node rt).st pr.lhs = some (s.node hd).st ∧ inp.skip (s.node e).pos = inp.skip (s.node hd).pos

structure Same (inp : Input) (s s' : GState) : Prop where
  size : s.nodes.size ≤ s'.nodes.size
  nd : ∀ i, i < s.nodes.size → (s'.node i).st = (s.node i).st ∧ inp.skip (s'.node i).pos = inp.skip (s.node i).pos
  lsize : s.links.size ≤ s'.links.size
  lk : ∀ i, i < s.links.size → (s'.link i).head = (s.link i).head ∧ (s'.link i).root = (s.link i).root

theorem NEq.same {s s' : GState} {a b : Nat} (h : NEq inp s a b) (hs : Same inp s s') (ha : a < s.nodes.size)
    (hb : b < s.nodes.size) : NEq inp s' a b := by
  obtain ⟨a1, a2⟩ := hs.nd a ha
  obtain ⟨b1, b2⟩ := hs.nd b hb
  exact ⟨by rw [a1, b1]; exact h.1, by rw [a2, b2]; exact h.2⟩

theorem KChain.same {s s' : GState} {a b : Nat} {ks : List Nat} (h : KChain inp s a ks b)
    (hs : Same inp s s') : KChain inp s' a ks b := by
  induction h with
  | nil a b ha hb h =>
    exact .nil _ _ (Nat.lt_of_lt_of_le ha hs.size) (Nat.lt_of_lt_of_le hb hs.size) (h.same hs ha hb)
  | cons a k b ks ha hk hhd hrt hr _ ih =>
    obtain ⟨l1, l2⟩ := hs.lk k hk
    refine .cons _ k _ ks (Nat.lt_of_lt_of_le ha hs.size) (Nat.lt_of_lt_of_le hk hs.lsize)
      (by rw [l1]; exact Nat.lt_of_lt_of_le hhd hs.size) (by rw [l2]; exact Nat.lt_of_lt_of_le hrt hs.size)
      ?_ ?_
    · rw [l2]; exact hr.same hs hrt ha
    · rw [l1]; exact ih

theorem KChain.end_lt {s : GState} {a b : Nat} {ks : List Nat} (h : KChain inp s a ks b) :
    b < s.nodes.size := by
  induction h with
  | nil a b ha hb h => exact hb
  | cons a k b ks ha hk hhd hrt hr _ ih => exact ih

theorem PossOK.same {s s' : GState} {hd rt : Nat} {p : Poss} (h : PossOK g T inp s hd rt p) (hs : Same inp s s')
    (hh : hd < s.nodes.size) (hr : rt < s.nodes.size) : PossOK g T inp s' hd rt p := by
  obtain ⟨a1, a2⟩ := hs.nd hd hh
  obtain ⟨b1, b2⟩ := hs.nd rt hr
  cases p with
  | term a st en =>
    obtain ⟨h1, h2, h3, h4⟩ := h
    exact ⟨by rw [a1, b1]; exact h1, by rw [b2]; exact h2, h3, by rw [a2]; exact h4⟩
  | nonterm pid kids =>
    obtain ⟨pr, e, h1, h2, h3, h4, h5, h6⟩ := h
    obtain ⟨c1, c2⟩ := hs.nd e h3.end_lt
    exact ⟨pr, e, h1, h2, h3.same hs, by rw [c1]; exact h4, by rw [b1, a1]; exact h5,
      by rw [c2, a2]; exact h6⟩

theorem PossOK.congr {s : GState} {hd rt hd' rt' : Nat} {p : Poss} (h : PossOK g T inp s hd rt p)
    (eh : NEq inp s hd hd') (er : NEq inp s rt rt') (hr' : rt' < s.nodes.size) : PossOK g T inp s hd' rt' p := by
  cases p with
  | term a st en =>
    obtain ⟨h1, h2, h3, h4⟩ := h
    exact ⟨by rw [← eh.1, ← er.1]; exact h1, by rw [← er.2]; exact h2, h3, by rw [← eh.2]; exact h4⟩
  | nonterm pid kids =>
    obtain ⟨pr, e, h1, h2, h3, h4, h5, h6⟩ := h
    exact ⟨pr, e, h1, h2, h3.congr_start hr' er, h4, by rw [← er.1, ← eh.1]; exact h5,
      by rw [← eh.2]; exact h6⟩

/-- Graph part (`nodes`, `links`, `plinks`, `poss`) and work lists. In `plinks` the head of a listed link
*stands where* `n` stands and need not be `n`: a clone made by `_find_lookaheads` shares the link list of
the node it copies. -/
structure GInv (g : Grammar) (T : Table) (inp : Input) (consume : Bool) (s : GState) : Prop where
  nodes : ∀ i, i < s.nodes.size → NodeOK g T inp consume (s.node i)
  links : ∀ i, i < s.links.size → (s.link i).head < s.nodes.size ∧ (s.link i).root < s.nodes.size ∧
    Replay g T inp (s.node (s.link i).root).st (s.node (s.link i).root).pos
      (s.node (s.link i).head).st (s.node (s.link i).head).pos
  plinks : ∀ n, n < s.nodes.size → ∀ l ∈ (s.node n).plinks, l < s.links.size ∧
    (s.node (s.link l).head).st = (s.node n).st ∧
    inp.skip (s.node (s.link l).head).pos = inp.skip (s.node n).pos
  active : ∀ x ∈ s.active, x.2 < s.nodes.size ∧ (s.node x.2).st = x.1
  forActor : ∀ h ∈ s.forActor, h < s.nodes.size ∧ (s.node h).tok.isSome = true
  forShifter : ∀ x ∈ s.forShifter, x.1 < s.nodes.size ∧
    ∃ t, (s.node x.1).tok = some t ∧ Action.shift x.2 ∈ T.actions (s.node x.1).st t.term
  accepted : ∀ h ∈ s.accepted, h < s.nodes.size ∧
    ∃ t, (s.node h).tok = some t ∧ Action.accept ∈ T.actions (s.node h).st t.term
  poss : ∀ i, i < s.links.size → ∀ p ∈ (s.link i).poss, PossOK g T inp s (s.link i).head (s.link i).root p

/-! ### Reading the state -/

theorem node_lt {s : GState} {i : Nat} (h : i < s.nodes.size) : s.node i = s.nodes[i] := by
  rw [GState.node, Array.getD, dif_pos h]; rfl

theorem link_lt {s : GState} {i : Nat} (h : i < s.links.size) : s.link i = s.links[i] := by
  rw [GState.link, Array.getD, dif_pos h]; rfl

theorem node_of_eq {s s' : GState} (h : s'.nodes = s.nodes) : s'.node = s.node :=
  funext fun i => by simp only [GState.node, h]

theorem link_of_eq {s s' : GState} (h : s'.links = s.links) : s'.link = s.link :=
  funext fun i => by simp only [GState.link, h]

theorem node_push_lt {s s' : GState} {x : GNode} (h : s'.nodes = s.nodes.push x) {i : Nat}
    (hi : i < s.nodes.size) : s'.node i = s.node i := by
  rw [GState.node, GState.node, h, Array.getD_eq_getD_getElem?, Array.getD_eq_getD_getElem?,
    Array.getElem?_push_lt hi, Array.getElem?_eq_getElem hi]

theorem node_push_eq {s s' : GState} {x : GNode} (h : s'.nodes = s.nodes.push x) :
    s'.node s.nodes.size = x := by
  rw [GState.node, h, Array.getD_eq_getD_getElem?, Array.getElem?_push_size]; rfl

theorem node_set_ne {s s' : GState} {x : GNode} {k : Nat} (h : s'.nodes = s.nodes.setIfInBounds k x) {i : Nat}
    (hi : i ≠ k) : s'.node i = s.node i := by
  rw [GState.node, GState.node, h, Array.getD_eq_getD_getElem?, Array.getD_eq_getD_getElem?,
    Array.getElem?_setIfInBounds_ne (Ne.symm hi)]

theorem node_set_eq {s s' : GState} {x : GNode} {k : Nat} (h : s'.nodes = s.nodes.setIfInBounds k x)
    (hk : k < s.nodes.size) : s'.node k = x := by
  rw [GState.node, h, Array.getD_eq_getD_getElem?, Array.getElem?_setIfInBounds_self_of_lt hk]; rfl

theorem link_push_lt {s s' : GState} {x : GLink} (h : s'.links = s.links.push x) {i : Nat}
    (hi : i < s.links.size) : s'.link i = s.link i := by
  rw [GState.link, GState.link, h, Array.getD_eq_getD_getElem?, Array.getD_eq_getD_getElem?,
    Array.getElem?_push_lt hi, Array.getElem?_eq_getElem hi]

theorem link_push_eq {s s' : GState} {x : GLink} (h : s'.links = s.links.push x) :
    s'.link s.links.size = x := by
  rw [GState.link, h, Array.getD_eq_getD_getElem?, Array.getElem?_push_size]; rfl

theorem link_set_ne {s s' : GState} {x : GLink} {k : Nat} (h : s'.links = s.links.setIfInBounds k x) {i : Nat}
    (hi : i ≠ k) : s'.link i = s.link i := by
  rw [GState.link, GState.link, h, Array.getD_eq_getD_getElem?, Array.getD_eq_getD_getElem?,
    Array.getElem?_setIfInBounds_ne (Ne.symm hi)]

theorem link_set_eq {s s' : GState} {x : GLink} {k : Nat} (h : s'.links = s.links.setIfInBounds k x)
    (hk : k < s.links.size) : s'.link k = x := by
  rw [GState.link, h, Array.getD_eq_getD_getElem?, Array.getElem?_setIfInBounds_self_of_lt hk]; rfl

theorem GInv.st_lt (hw : T.wf g = true) {consume : Bool} {s : GState} (hinv : GInv g T inp consume s)
    {n : Nat} (hn : n < s.nodes.size) : (s.node n).st < T.n := by
  obtain ⟨st, r, hs, ht, _⟩ := (hinv.nodes n hn).reach
  rw [← ht]; exact hs.top_lt (wf_pos hw)

theorem mem_of_headActive {s : GState} {state n : Nat} (h : s.headActive state = some n) :
    (state, n) ∈ s.active := by
  simp only [GState.headActive, Option.map_eq_some_iff] at h
  obtain ⟨x, hx, rfl⟩ := h
  have h1 := List.mem_of_find?_eq_some hx
  have h2 := List.find?_some hx
  simp only [beq_iff_eq] at h2
  rw [← h2]; exact h1

theorem tokTerm_of_tok {s : GState} {n : Nat} {t : Tok} (h : (s.node n).tok = some t) :
    s.tokTerm n = t.term := by
  rw [GState.tokTerm, h]

theorem GInv.graph_eq {consume : Bool} {s s' : GState} (h : GInv g T inp consume s)
    (hn : s'.nodes = s.nodes) (hl : s'.links = s.links)
    (ha : ∀ x ∈ s'.active, x.2 < s.nodes.size ∧ (s.node x.2).st = x.1)
    (hf : ∀ h ∈ s'.forActor, h < s.nodes.size ∧ (s.node h).tok.isSome = true)
    (hs : ∀ x ∈ s'.forShifter, x.1 < s.nodes.size ∧
      ∃ t, (s.node x.1).tok = some t ∧ Action.shift x.2 ∈ T.actions (s.node x.1).st t.term)
    (hc : ∀ h ∈ s'.accepted, h < s.nodes.size ∧
      ∃ t, (s.node h).tok = some t ∧ Action.accept ∈ T.actions (s.node h).st t.term) :
    GInv g T inp consume s' := by
  have hnode := node_of_eq hn
  have hlink := link_of_eq hl
  refine ⟨by rw [hn, hnode]; exact h.nodes, by rw [hl, hn, hnode, hlink]; exact h.links,
    by rw [hn, hl, hnode, hlink]; exact h.plinks, by rw [hn, hnode]; exact ha, by rw [hn, hnode]; exact hf,
    by rw [hn, hnode]; exact hs, by rw [hn, hnode]; exact hc, fun i hi p hp => ?_⟩
  rw [hl] at hi
  rw [hlink] at hp ⊢
  exact (h.poss i hi p hp).same
    ⟨Nat.le_of_eq (congrArg Array.size hn).symm, fun _ _ => by rw [hnode]; exact ⟨rfl, rfl⟩,
      Nat.le_of_eq (congrArg Array.size hl).symm, fun _ _ => by rw [hlink]; exact ⟨rfl, rfl⟩⟩
    (h.links i hi).1 (h.links i hi).2.1

/-! Earlier and later state. `Same`: what `KChain` and `PossOK` look at (states, positions up to layout,
link ends). `Grows` adds "a token once set stays" and the crash flag: every phase gives it, facts about a
node travel along it, and `_find_lookaheads` gives no more (it moves heads over layout and sets tokens).
`Ext` keeps position, token and frontier exactly: reductions and shifts give it, `_do_shifts` needs it
(the model tests `first.s == H.pos` on raw positions). `Keeps`: a single graph edit leaves the work lists. -/

structure Ext (s s' : GState) : Prop where
  size : s.nodes.size ≤ s'.nodes.size
  same : ∀ i, i < s.nodes.size → (s'.node i).st = (s.node i).st ∧ (s'.node i).pos = (s.node i).pos ∧
    (s'.node i).tok = (s.node i).tok ∧ (s'.node i).fr = (s.node i).fr
  lsize : s.links.size ≤ s'.links.size
  lsame : ∀ i, i < s.links.size → (s'.link i).head = (s.link i).head ∧ (s'.link i).root = (s.link i).root
  crash : s'.crash = s.crash

theorem Ext.refl (s : GState) : Ext s s :=
  ⟨Nat.le_refl _, fun _ _ => ⟨rfl, rfl, rfl, rfl⟩, Nat.le_refl _, fun _ _ => ⟨rfl, rfl⟩, rfl⟩

theorem Ext.trans {a b c : GState} (h1 : Ext a b) (h2 : Ext b c) : Ext a c := by
  refine ⟨Nat.le_trans h1.size h2.size, ?_, Nat.le_trans h1.lsize h2.lsize, ?_, h2.crash.trans h1.crash⟩
  · intro i hi
    obtain ⟨a1, a2, a3, a4⟩ := h1.same i hi
    obtain ⟨b1, b2, b3, b4⟩ := h2.same i (Nat.lt_of_lt_of_le hi h1.size)
    exact ⟨b1.trans a1, b2.trans a2, b3.trans a3, b4.trans a4⟩
  · intro i hi
    obtain ⟨a1, a2⟩ := h1.lsame i hi
    obtain ⟨b1, b2⟩ := h2.lsame i (Nat.lt_of_lt_of_le hi h1.lsize)
    exact ⟨b1.trans a1, b2.trans a2⟩

theorem Ext.of_graph_eq {s s' : GState} (hn : s'.nodes = s.nodes) (hl : s'.links = s.links)
    (hc : s'.crash = s.crash) : Ext s s' :=
  ⟨Nat.le_of_eq (congrArg Array.size hn).symm, fun i _ => by rw [node_of_eq hn]; exact ⟨rfl, rfl, rfl, rfl⟩,
    Nat.le_of_eq (congrArg Array.size hl).symm, fun i _ => by rw [link_of_eq hl]; exact ⟨rfl, rfl⟩, hc⟩

structure Grows (inp : Input) (s s' : GState) : Prop extends Same inp s s' where
  tok : ∀ i, i < s.nodes.size → ∀ t, (s.node i).tok = some t → (s'.node i).tok = some t
  crash : s'.crash = s.crash

theorem Ext.grows {s s' : GState} (h : Ext s s') : Grows inp s s' :=
  ⟨⟨h.size, fun i hi => ⟨(h.same i hi).1, by rw [(h.same i hi).2.1]⟩, h.lsize, h.lsame⟩,
    fun i hi t ht => by rw [(h.same i hi).2.2.1]; exact ht, h.crash⟩

theorem Grows.trans {a b c : GState} (h1 : Grows inp a b) (h2 : Grows inp b c) : Grows inp a c := by
  refine ⟨⟨Nat.le_trans h1.size h2.size, ?_, Nat.le_trans h1.lsize h2.lsize, ?_⟩,
    fun i hi t ht => h2.tok i (Nat.lt_of_lt_of_le hi h1.size) t (h1.tok i hi t ht), h2.crash.trans h1.crash⟩
  · intro i hi
    obtain ⟨a1, a2⟩ := h1.nd i hi
    obtain ⟨b1, b2⟩ := h2.nd i (Nat.lt_of_lt_of_le hi h1.size)
    exact ⟨b1.trans a1, b2.trans a2⟩
  · intro i hi
    obtain ⟨a1, a2⟩ := h1.lk i hi
    obtain ⟨b1, b2⟩ := h2.lk i (Nat.lt_of_lt_of_le hi h1.lsize)
    exact ⟨b1.trans a1, b2.trans a2⟩

theorem Grows.head {s s' : GState} (e : Grows inp s s') {h P : Nat} (hh : h < s.nodes.size)
    (hpos : inp.skip (s.node h).pos = P) (htok : (s.node h).tok.isSome = true) :
    h < s'.nodes.size ∧ (s'.node h).st = (s.node h).st ∧ inp.skip (s'.node h).pos = P ∧
      (s'.node h).tok.isSome = true := by
  obtain ⟨t, ht⟩ := Option.isSome_iff_exists.mp htok
  exact ⟨Nat.lt_of_lt_of_le hh e.size, (e.nd h hh).1, (e.nd h hh).2.trans hpos, by rw [e.tok h hh t ht]; rfl⟩

structure Keeps (s s' : GState) : Prop where
  active : s'.active = s.active
  forActor : s'.forActor = s.forActor
  forShifter : s'.forShifter = s.forShifter
  accepted : s'.accepted = s.accepted
  crash : s'.crash = s.crash

theorem Keeps.trans {a b c : GState} (h1 : Keeps a b) (h2 : Keeps b c) : Keeps a c :=
  ⟨h2.active.trans h1.active, h2.forActor.trans h1.forActor, h2.forShifter.trans h1.forShifter,
    h2.accepted.trans h1.accepted, h2.crash.trans h1.crash⟩

/-- A node or link of the later state is an old one as it was, or it is justified: a node by `NodeOK` and,
for each link it lists, an old node standing there that listed it or the link's head standing there; a
link by its replay if it is new and, for each possibility, its being there before or `PossOK`. -/
theorem GInv.grow {consume : Bool} {s s' : GState} (h : GInv g T inp consume s) (hs : Grows inp s s')
    (hk : Keeps s s')
    (hnode : ∀ n, n < s'.nodes.size → (n < s.nodes.size ∧ s'.node n = s.node n) ∨
      (NodeOK g T inp consume (s'.node n) ∧ ∀ l ∈ (s'.node n).plinks,
        (∃ m, m < s.nodes.size ∧ l ∈ (s.node m).plinks ∧ (s'.node n).st = (s.node m).st ∧
            inp.skip (s'.node n).pos = inp.skip (s.node m).pos) ∨
          (l < s'.links.size ∧ (s'.node (s'.link l).head).st = (s'.node n).st ∧
            inp.skip (s'.node (s'.link l).head).pos = inp.skip (s'.node n).pos)))
    (hlink : ∀ i, i < s'.links.size → (i < s.links.size ∧ s'.link i = s.link i) ∨
      ((s.links.size ≤ i → (s'.link i).head < s'.nodes.size ∧ (s'.link i).root < s'.nodes.size ∧
          Replay g T inp (s'.node (s'.link i).root).st (s'.node (s'.link i).root).pos
            (s'.node (s'.link i).head).st (s'.node (s'.link i).head).pos) ∧
        ∀ p ∈ (s'.link i).poss, (i < s.links.size ∧ p ∈ (s.link i).poss) ∨
          PossOK g T inp s' (s'.link i).head (s'.link i).root p)) :
    GInv g T inp consume s' := by
  have lt' : ∀ {i}, i < s.nodes.size → i < s'.nodes.size := fun hi => Nat.lt_of_lt_of_le hi hs.size
  refine ⟨?_, ?_, ?_, ?_, ?_, ?_, ?_, ?_⟩
  · intro n hn
    rcases hnode n hn with ⟨hlt, e⟩ | ⟨hok, _⟩
    · rw [e]; exact h.nodes n hlt
    · exact hok
  · intro i hi
    by_cases hio : i < s.links.size
    · obtain ⟨l1, l2, l3⟩ := h.links i hio
      obtain ⟨e1, e2⟩ := hs.lk i hio
      rw [e1, e2, (hs.nd _ l1).1, (hs.nd _ l2).1]
      refine ⟨lt' l1, lt' l2, fun st r h1 h2 h3 => ?_⟩
      obtain ⟨t, r', q1, q2⟩ := l3 st r h1 h2 (h3.trans (hs.nd _ l2).2)
      exact ⟨t, r', q1, q2.trans (hs.nd _ l1).2.symm⟩
    · exact (hlink i hi).elim (fun q => absurd q.1 hio) fun q => q.1 (Nat.le_of_not_lt hio)
  · intro n hn l hl
    have old : ∀ m, m < s.nodes.size → l ∈ (s.node m).plinks → l < s'.links.size ∧
        (s'.node (s'.link l).head).st = (s.node m).st ∧
        inp.skip (s'.node (s'.link l).head).pos = inp.skip (s.node m).pos := by
      intro m hm hlm
      obtain ⟨c1, c2, c3⟩ := h.plinks m hm l hlm
      obtain ⟨d1, d2⟩ := hs.nd _ (h.links l c1).1
      rw [(hs.lk l c1).1, d1, d2]
      exact ⟨Nat.lt_of_lt_of_le c1 hs.lsize, c2, c3⟩
    rcases hnode n hn with ⟨hlt, e⟩ | ⟨_, hpl⟩
    · rw [e] at hl ⊢; exact old n hlt hl
    · rcases hpl l hl with ⟨m, hm, hlm, e1, e2⟩ | hnew
      · rw [e1, e2]; exact old m hm hlm
      · exact hnew
  · intro x hx
    rw [hk.active] at hx
    obtain ⟨d1, d2⟩ := h.active x hx
    exact ⟨lt' d1, by rw [(hs.nd _ d1).1]; exact d2⟩
  · intro x hx
    rw [hk.forActor] at hx
    obtain ⟨d1, d2⟩ := h.forActor x hx
    obtain ⟨t, ht⟩ := Option.isSome_iff_exists.mp d2
    exact ⟨lt' d1, by rw [hs.tok _ d1 t ht]; rfl⟩
  · intro x hx
    rw [hk.forShifter] at hx
    obtain ⟨d1, t, ht, d2⟩ := h.forShifter x hx
    exact ⟨lt' d1, t, hs.tok _ d1 t ht, by rw [(hs.nd _ d1).1]; exact d2⟩
  · intro x hx
    rw [hk.accepted] at hx
    obtain ⟨d1, t, ht, d2⟩ := h.accepted x hx
    exact ⟨lt' d1, t, hs.tok _ d1 t ht, by rw [(hs.nd _ d1).1]; exact d2⟩
  · intro i hi p hp
    have old : i < s.links.size → p ∈ (s.link i).poss →
        PossOK g T inp s' (s'.link i).head (s'.link i).root p := by
      intro hio hpo
      obtain ⟨l1, l2, _⟩ := h.links i hio
      rw [(hs.lk i hio).1, (hs.lk i hio).2]
      exact (h.poss i hio p hpo).same hs.toSame l1 l2
    rcases hlink i hi with ⟨hio, e⟩ | ⟨_, hps⟩
    · exact old hio (e ▸ hp)
    · exact (hps p hp).elim (fun q => old q.1 q.2) id

theorem createLink_cases {s s1 : GState} {head root st en : Nat} {poss : List Poss} {created : Bool}
    {lid : Nat}
    (h : createLink s head root st en poss = (s1, created, lid)) :
    Keeps s s1 ∧
      ((lid ∈ s.parents head ∧ (s.node (s.link lid).root).st = (s.node root).st ∧
          (s.node (s.link lid).root).pos = (s.node root).pos ∧ s1.nodes = s.nodes ∧
          s1.links = s.links.setIfInBounds lid { s.link lid with poss := (s.link lid).poss ++ poss } ∧
          created = false) ∨
        (s1.nodes = s.nodes.setIfInBounds head
            { s.node head with plinks := (s.node head).plinks ++ [s.links.size] } ∧
          s1.links = s.links.push { head := head, root := root, s := st, e := en, poss := poss } ∧
          created = true ∧ lid = s.links.size)) := by
  unfold createLink at h
  simp only at h
  generalize hfind : List.find? _ (s.parents head) = found at h
  cases found with
  | some i =>
    cases h
    have hkey := List.find?_some hfind
    simp only [Bool.and_eq_true, beq_iff_eq] at hkey
    exact ⟨⟨rfl, rfl, rfl, rfl, rfl⟩,
      Or.inl ⟨List.mem_of_find?_eq_some hfind, hkey.1.2, hkey.2, rfl, rfl, rfl⟩⟩
  | none => cases h; exact ⟨⟨rfl, rfl, rfl, rfl, rfl⟩, Or.inr ⟨rfl, rfl, rfl, rfl⟩⟩

theorem mergeLink_ok {consume : Bool} {s s1 : GState} (hinv : GInv g T inp consume s) {i : Nat}
    (hil : i < s.links.size) {poss : List Poss}
    (hposs : ∀ p ∈ poss, PossOK g T inp s (s.link i).head (s.link i).root p) (hn : s1.nodes = s.nodes)
    (hl : s1.links = s.links.setIfInBounds i { s.link i with poss := (s.link i).poss ++ poss })
    (hk : Keeps s s1) : GInv g T inp consume s1 ∧ Ext s s1 := by
  obtain ⟨l1, l2, _⟩ := hinv.links i hil
  have hnode := node_of_eq hn
  have hcase : ∀ k, s1.link k = s.link k ∨
      (k = i ∧ s1.link k = { s.link i with poss := (s.link i).poss ++ poss }) := by
    intro k
    by_cases hk : k = i
    · subst hk; exact Or.inr ⟨rfl, link_set_eq hl hil⟩
    · exact Or.inl (link_set_ne hl hk)
  have hlsz : s1.links.size = s.links.size := by rw [hl, Array.size_setIfInBounds]
  have hext : Ext s s1 := ⟨Nat.le_of_eq (congrArg Array.size hn).symm,
    fun k _ => by rw [hnode]; exact ⟨rfl, rfl, rfl, rfl⟩, Nat.le_of_eq hlsz.symm,
    fun k _ => by rcases hcase k with e | ⟨rfl, e⟩ <;> rw [e] <;> exact ⟨rfl, rfl⟩, hk.crash⟩
  refine ⟨hinv.grow hext.grows hk (fun n hn' => Or.inl ⟨hn ▸ hn', by rw [hnode]⟩) (fun k hk' => ?_), hext⟩
  rcases hcase k with e | ⟨rfl, e⟩
  · exact Or.inl ⟨hlsz ▸ hk', e⟩
  · rw [e]
    exact Or.inr ⟨fun h => absurd hil (Nat.not_lt.mpr h), fun p hp => (List.mem_append.mp hp).imp
      (fun hp => ⟨hil, hp⟩) fun hp => (hposs p hp).same hext.grows.toSame l1 l2⟩

theorem pushLink_ok {consume : Bool} {s s1 : GState} (hinv : GInv g T inp consume s) {head root : Nat}
    (hh : head < s.nodes.size) (hr : root < s.nodes.size)
    (hrep : Replay g T inp (s.node root).st (s.node root).pos (s.node head).st (s.node head).pos)
    {poss : List Poss} (hposs : ∀ p ∈ poss, PossOK g T inp s head root p) (st en : Nat)
    (hn : s1.nodes = s.nodes.setIfInBounds head
      { s.node head with plinks := (s.node head).plinks ++ [s.links.size] })
    (hl : s1.links = s.links.push { head := head, root := root, s := st, e := en, poss := poss })
    (hk : Keeps s s1) : GInv g T inp consume s1 ∧ Ext s s1 := by
  have hnH : s1.node head = { s.node head with plinks := (s.node head).plinks ++ [s.links.size] } :=
    node_set_eq hn hh
  have hnf : ∀ k, (s1.node k).st = (s.node k).st ∧ (s1.node k).pos = (s.node k).pos ∧
      (s1.node k).tok = (s.node k).tok ∧ (s1.node k).fr = (s.node k).fr := by
    intro k
    by_cases hk : k = head
    · subst hk; rw [hnH]; exact ⟨rfl, rfl, rfl, rfl⟩
    · rw [node_set_ne hn hk]; exact ⟨rfl, rfl, rfl, rfl⟩
  have hlN : s1.link s.links.size = { head := head, root := root, s := st, e := en, poss := poss } :=
    link_push_eq hl
  have hsz : s1.nodes.size = s.nodes.size := by rw [hn, Array.size_setIfInBounds]
  have hlsz : s1.links.size = s.links.size + 1 := by rw [hl, Array.size_push]
  have hext : Ext s s1 := ⟨Nat.le_of_eq hsz.symm, fun k _ => hnf k, hlsz ▸ Nat.le_succ _,
    fun k hk => by rw [link_push_lt hl hk]; exact ⟨rfl, rfl⟩, hk.crash⟩
  refine ⟨hinv.grow hext.grows hk (fun n hn' => ?_) (fun k hk' => ?_), hext⟩
  · by_cases hnh : n = head
    · -- `head` lists the new link besides its own
      subst hnh
      have := hinv.nodes n hh
      rw [hnH]
      refine Or.inr ⟨⟨this.reach, this.tok⟩, fun l hl' => (List.mem_append.mp hl').imp
        (fun hl' => ⟨n, hh, hl', rfl, rfl⟩) fun hl' => ?_⟩
      obtain rfl := List.mem_singleton.mp hl'
      exact ⟨hlsz ▸ Nat.lt_succ_self _, by rw [hlN, hnH], by rw [hlN, hnH]⟩
    · exact Or.inl ⟨hsz ▸ hn', node_set_ne hn hnh⟩
  · by_cases hkn : k < s.links.size
    · exact Or.inl ⟨hkn, link_push_lt hl hkn⟩
    · obtain rfl : k = s.links.size :=
        Nat.le_antisymm (Nat.le_of_lt_succ (hlsz ▸ hk' :)) (Nat.le_of_not_lt hkn)
      rw [hlN, (hnf root).1, (hnf root).2.1, (hnf head).1, (hnf head).2.1]
      exact Or.inr ⟨fun _ => ⟨hsz ▸ hh, hsz ▸ hr, hrep⟩,
        fun p hp => Or.inr ((hposs p hp).same hext.grows.toSame hh hr)⟩

/-- The head of link `lid` is `head` only when the link was created: on a merge it may be a node that
`head` was cloned from, standing in the same place. -/
theorem createLink_ok {consume : Bool} {s : GState} (hinv : GInv g T inp consume s) {head root : Nat}
    (st en : Nat) {poss : List Poss} (hh : head < s.nodes.size) (hr : root < s.nodes.size)
    (hrep : Replay g T inp (s.node root).st (s.node root).pos (s.node head).st (s.node head).pos)
    (hposs : ∀ p ∈ poss, PossOK g T inp s head root p)
    {s1 : GState} {created : Bool} {lid : Nat} (h : createLink s head root st en poss = (s1, created, lid)) :
    GInv g T inp consume s1 ∧ Ext s s1 ∧ Keeps s s1 ∧ lid < s1.links.size ∧
      (created = true → (s1.link lid).head = head) := by
  obtain ⟨hk, ⟨hi, kst, kpos, hn, hl, rfl⟩ | ⟨hn, hl, rfl, rfl⟩⟩ := createLink_cases h
  · -- merged into a link that leads from `head`'s place to `root`'s place
    obtain ⟨hil, hst, hpos⟩ := hinv.plinks head hh _ hi
    obtain ⟨q1, q2⟩ := mergeLink_ok hinv hil
      (fun p hp => (hposs p hp).congr ⟨hst.symm, hpos.symm⟩ ⟨kst.symm, by rw [kpos]⟩ (hinv.links _ hil).2.1)
      hn hl hk
    exact ⟨q1, q2, hk, Nat.lt_of_lt_of_le hil q2.lsize, fun hc => nomatch hc⟩
  · obtain ⟨q1, q2⟩ := pushLink_ok hinv hh hr hrep hposs st en hn hl hk
    exact ⟨q1, q2, hk, by rw [hl, Array.size_push]; exact Nat.lt_succ_self _,
      fun _ => by rw [link_push_eq hl]⟩

/-- `hpl`: a clone lists the links of the node it copies; a fresh head lists none. -/
theorem pushNode_ok {consume : Bool} {s s1 : GState} (hinv : GInv g T inp consume s) {x : GNode}
    (hx : NodeOK g T inp consume x)
    (hpl : ∀ l ∈ x.plinks, ∃ m, m < s.nodes.size ∧ l ∈ (s.node m).plinks ∧ x.st = (s.node m).st ∧
      inp.skip x.pos = inp.skip (s.node m).pos)
    (hn : s1.nodes = s.nodes.push x) (hl : s1.links = s.links) (hk : Keeps s s1) :
    GInv g T inp consume s1 ∧ Ext s s1 ∧ s1.node s.nodes.size = x ∧ s.nodes.size < s1.nodes.size := by
  have hsz : s1.nodes.size = s.nodes.size + 1 := by rw [hn, Array.size_push]
  have hext : Ext s s1 := ⟨hsz ▸ Nat.le_succ _,
    fun k hk => by rw [node_push_lt hn hk]; exact ⟨rfl, rfl, rfl, rfl⟩,
    Nat.le_of_eq (congrArg Array.size hl).symm, fun k _ => by rw [link_of_eq hl]; exact ⟨rfl, rfl⟩, hk.crash⟩
  refine ⟨hinv.grow hext.grows hk (fun n hn' => ?_) (fun k hk' => Or.inl ⟨hl ▸ hk', by rw [link_of_eq hl]⟩),
    hext, node_push_eq hn, hsz ▸ Nat.lt_succ_self _⟩
  by_cases hnn : n < s.nodes.size
  · exact Or.inl ⟨hnn, node_push_lt hn hnn⟩
  · obtain rfl : n = s.nodes.size := Nat.le_antisymm (Nat.le_of_lt_succ (hsz ▸ hn' :)) (Nat.le_of_not_lt hnn)
    rw [node_push_eq hn]
    exact Or.inr ⟨hx, fun l hl' => Or.inl (hpl l hl')⟩

/-- The in-place edits of `_find_lookaheads`: they give `Grows`, not `Ext`. -/
theorem setNode_ok {consume : Bool} {s s1 : GState} (hinv : GInv g T inp consume s) {k : Nat}
    (hk : k < s.nodes.size) {x : GNode} (h1 : x.st = (s.node k).st)
    (h2 : inp.skip x.pos = inp.skip (s.node k).pos) (h3 : x.plinks = (s.node k).plinks)
    (h4 : ∀ t, (s.node k).tok = some t → x.tok = some t) (hx : NodeOK g T inp consume x)
    (hn : s1.nodes = s.nodes.setIfInBounds k x) (hl : s1.links = s.links) (hkp : Keeps s s1) :
    GInv g T inp consume s1 ∧ Grows inp s s1 ∧ s1.node k = x := by
  have hsz : s1.nodes.size = s.nodes.size := by rw [hn, Array.size_setIfInBounds]
  have hnk : s1.node k = x := node_set_eq hn hk
  have hcase : ∀ i, s1.node i = s.node i ∨ (i = k ∧ s1.node i = x) := by
    intro i
    by_cases hik : i = k
    · exact Or.inr ⟨hik, hik ▸ hnk⟩
    · exact Or.inl (node_set_ne hn hik)
  have hg : Grows inp s s1 := by
    refine ⟨⟨Nat.le_of_eq hsz.symm, fun i _ => ?_, Nat.le_of_eq (congrArg Array.size hl).symm,
      fun i _ => by rw [link_of_eq hl]; exact ⟨rfl, rfl⟩⟩, fun i _ => ?_, hkp.crash⟩
    · rcases hcase i with e | ⟨rfl, e⟩ <;> rw [e]
      · exact ⟨rfl, rfl⟩
      · exact ⟨h1, h2⟩
    · rcases hcase i with e | ⟨rfl, e⟩ <;> rw [e]
      · exact fun _ h => h
      · exact h4
  refine ⟨hinv.grow hg hkp (fun n hn' => ?_) (fun i hi => Or.inl ⟨hl ▸ hi, by rw [link_of_eq hl]⟩), hg, hnk⟩
  rcases hcase n with e | ⟨rfl, e⟩
  · exact Or.inl ⟨hsz ▸ hn', e⟩
  · rw [e]
    exact Or.inr ⟨hx, fun l hl' => Or.inl ⟨n, hk, h3 ▸ hl', h1, h2⟩⟩

end GLR

end Pg
