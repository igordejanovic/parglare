import PgVerif.Spec.Chart
import PgVerif.Proofs.CFG
import PgVerif.Proofs.Lex
/-!
The chart recognizer is exact once saturated: a chart built by the inference rule and closed under
it holds exactly the derivable spans (`ChartExact`, `chart_exact`). What the oracles read off a
chart (`parseEnds`, `splits`, the prefix chart) rests on that one statement.
-/
namespace Pg

variable {g : Grammar} {inp : Input}

/-- `parseEnds g ch` and the second half of `symPrefixEnds` are `symEnds` of a nonterminal by `rfl`:
the `filterMap` is opened only here. -/
theorem mem_symEnds_nt {ch : List Fact} {A i j : Nat} :
    j ∈ symEnds inp ch (.nt A) i ↔ (A, i, j) ∈ ch := by
  refine List.mem_filterMap.trans ⟨?_, fun h => ⟨_, h, if_pos ⟨rfl, rfl⟩⟩⟩
  rintro ⟨⟨_, _, _⟩, hf, h⟩
  obtain ⟨⟨rfl, rfl⟩, he⟩ := Option.ite_none_right_eq_some.mp h
  exact Option.some.inj he ▸ hf

theorem mem_symEnds_t {ch : List Fact} {t i j : Nat} :
    j ∈ symEnds inp ch (.t t) i ↔ ∃ l, inp.matchAt t (inp.skip i) = some l ∧ inp.skip i + l = j := by
  simp only [symEnds]
  cases inp.matchAt t (inp.skip i) with
  | none => simp only [List.not_mem_nil, reduceCtorEq, false_and, exists_false]
  | some l => simp only [List.mem_singleton, Option.some.injEq, exists_eq_left', eq_comm]

theorem mem_seqEnds_cons {ch : List Fact} {X : Sym} {Xs : List Sym} {i j : Nat} :
    j ∈ seqEnds inp ch (X :: Xs) i ↔ ∃ k, k ∈ symEnds inp ch X i ∧ j ∈ seqEnds inp ch Xs k :=
  List.mem_flatMap

/-- The shape `roundFacts` and `prefixRound` share; `E` is what each collects as ends. -/
theorem mem_prodSpans {E : Prod → Nat → List Nat} {A i j : Nat} :
    (A, i, j) ∈ g.prods.flatMap (fun pr => (List.range (inp.len + 1)).flatMap (fun i =>
        (E pr i).map (fun j => (pr.lhs, i, j)))) ↔
      ∃ p pr, g.prod? p = some pr ∧ pr.lhs = A ∧ i ≤ inp.len ∧ j ∈ E pr i := by
  simp only [List.mem_flatMap, List.mem_map, List.mem_range, _root_.Prod.mk.injEq, Nat.lt_succ_iff]
  constructor
  · rintro ⟨pr, hpr, _, hi, _, hj, rfl, rfl, rfl⟩
    obtain ⟨p, hp⟩ := List.getElem?_of_mem hpr
    exact ⟨p, pr, hp, rfl, hi, hj⟩
  · rintro ⟨p, pr, hp, rfl, hi, hj⟩
    exact ⟨pr, List.mem_of_getElem? hp, i, hi, j, hj, rfl, rfl, rfl⟩

theorem mem_roundFacts {ch : List Fact} {A i j : Nat} :
    (A, i, j) ∈ roundFacts g inp ch ↔
      ∃ p pr, g.prod? p = some pr ∧ pr.lhs = A ∧ i ≤ inp.len ∧ j ∈ seqEnds inp ch pr.rhs i :=
  mem_prodSpans (E := fun pr i => seqEnds inp ch pr.rhs i)

/-! `saturate` and `prefixSaturate` append the facts of a round that are not there yet until a round
brings nothing, so both compute a least fixed point: what a round preserves holds of the result
(`forall_mem_append_fresh` is the step), and a result flagged `true` is closed under the round. -/

theorem closed_of_fresh_isEmpty {R ch : List Fact}
    (he : ((R.filter (fun x => !ch.contains x)).eraseDups).isEmpty = true) : ∀ f ∈ R, f ∈ ch :=
  fun _ hf => Decidable.byContradiction fun hc =>
    List.ne_nil_of_mem (List.mem_eraseDups.mpr (List.mem_filter.mpr ⟨hf, by simp only [List.contains_eq_mem, hc, decide_false, Bool.not_false]⟩))
      (List.isEmpty_iff.mp he)

theorem forall_mem_append_fresh {Q : Fact → Prop} {R ch : List Fact} (h : ∀ f ∈ ch, Q f)
    (hR : ∀ f ∈ R, Q f) : ∀ f ∈ ch ++ (R.filter (fun x => !ch.contains x)).eraseDups, Q f := fun f hf =>
  (List.mem_append.mp hf).elim (h f) fun h1 => hR f (List.mem_filter.mp (List.mem_eraseDups.mp h1)).1

theorem saturate_closed (fuel : Nat) (ch : List Fact) : (saturate g inp fuel ch).2 = true →
    ∀ f ∈ roundFacts g inp (saturate g inp fuel ch).1, f ∈ (saturate g inp fuel ch).1 := by
  fun_induction saturate g inp fuel ch with
  | case1 ch => exact closed_of_fresh_isEmpty
  | case2 f ch nf he => exact fun _ => closed_of_fresh_isEmpty he
  | case3 f ch nf he ih => exact ih

def ChartSound (g : Grammar) (inp : Input) (ch : List Fact) : Prop :=
  ∀ f ∈ ch, ∃ t, Derives g inp (.nt f.1) f.2.1 f.2.2 t

theorem symEnds_sound {ch : List Fact} (hs : ChartSound g inp ch) {X : Sym} {i j : Nat}
    (h : j ∈ symEnds inp ch X i) : ∃ t, Derives g inp X i j t := by
  cases X with
  | t t =>
    obtain ⟨l, hm, rfl⟩ := mem_symEnds_t.mp h
    obtain ⟨_, h2, h3⟩ := Input.matchAt_eq_some.mp hm
    exact ⟨_, DerivesSeq.tok t i l _ [] [] h2 h3 (DerivesSeq.nil _)⟩
  | nt A => exact hs _ (mem_symEnds_nt.mp h)

theorem seqEnds_sound {ch : List Fact} (hs : ChartSound g inp ch) {Xs : List Sym} {i j : Nat}
    (h : j ∈ seqEnds inp ch Xs i) : ∃ ts, DerivesSeq g inp Xs i j ts := by
  induction Xs generalizing i with
  | nil => cases List.mem_singleton.mp h; exact ⟨[], DerivesSeq.nil _⟩
  | cons X Xs ih =>
    obtain ⟨k, hk, hj⟩ := mem_seqEnds_cons.mp h
    obtain ⟨t, ht⟩ := symEnds_sound hs hk
    obtain ⟨ts, hts⟩ := ih hj
    exact ⟨t :: ts, DerivesSeq.append ht hts⟩

theorem roundFacts_sound {ch : List Fact} (hs : ChartSound g inp ch) :
    ChartSound g inp (roundFacts g inp ch) := by
  intro (A, i, j) hf
  obtain ⟨p, pr, hp, rfl, _, hj⟩ := mem_roundFacts.mp hf
  obtain ⟨ts, hts⟩ := seqEnds_sound hs hj
  exact ⟨.node p i j ts, .prod p pr i j j i j ts [] [] hp hts (.nil _)⟩

theorem saturate_sound (fuel : Nat) (ch : List Fact) (h : ChartSound g inp ch) :
    ChartSound g inp (saturate g inp fuel ch).1 := by
  fun_induction saturate g inp fuel ch with
  | case1 ch => exact h
  | case2 f ch nf he => exact h
  | case3 f ch nf he ih => exact ih (forall_mem_append_fresh h (roundFacts_sound h))

theorem chart_sound (fuel : Nat) : ChartSound g inp (chart g inp fuel).1 :=
  saturate_sound fuel [] (fun _ h => absurd h List.not_mem_nil)

theorem chart_closed {fuel : Nat} (h : (chart g inp fuel).2 = true) :
    ∀ f ∈ roundFacts g inp (chart g inp fuel).1, f ∈ (chart g inp fuel).1 :=
  saturate_closed fuel [] h

theorem DerivesSeq.le_len (hin : InputOK inp) {Xs : List Sym} {i j : Nat} {ts : List Tree}
    (h : DerivesSeq g inp Xs i j ts) : i ≤ inp.len → j ≤ inp.len := by
  induction h with
  | nil => exact id
  | tok t i l j Xs ts h _ _ ih => exact fun _ => ih (hin.mlen_le _ _ _ h)
  | prod _ _ _ _ _ _ _ _ _ _ _ _ _ ih1 ih2 => exact fun hi => ih2 (ih1 hi)

theorem closed_complete {ch : List Fact} (hc : ∀ f ∈ roundFacts g inp ch, f ∈ ch) (hin : InputOK inp)
    {Xs : List Sym} {i j : Nat} {ts : List Tree} (h : DerivesSeq g inp Xs i j ts) :
    i ≤ inp.len → j ∈ seqEnds inp ch Xs i := by
  induction h with
  | nil i => exact fun _ => List.mem_singleton.mpr rfl
  | tok t i l j Xs ts h hl _ ih =>
    intro _
    have hne : t ≠ STOP := fun he => by rw [he, hin.stop] at h; cases h
    exact mem_seqEnds_cons.mpr ⟨_, mem_symEnds_t.mpr ⟨l, Input.matchAt_eq_some.mpr ⟨hne, h, hl⟩, rfl⟩,
      ih (hin.mlen_le _ _ _ h)⟩
  | prod p pr i k j s e cs Xs ts hp hcs _ ih1 ih2 =>
    intro hi
    have hfact : (pr.lhs, i, k) ∈ ch := hc _ (mem_roundFacts.mpr ⟨p, pr, hp, rfl, hi, ih1 hi⟩)
    exact mem_seqEnds_cons.mpr ⟨k, mem_symEnds_nt.mpr hfact, ih2 (hcs.le_len hin hi)⟩

structure ChartExact (g : Grammar) (inp : Input) (ch : List Fact) : Prop where
  sound : ChartSound g inp ch
  complete : ∀ {X i j t}, Derives g inp X i j t → i ≤ inp.len → j ∈ symEnds inp ch X i

theorem chart_exact (hin : InputOK inp) {fuel : Nat} (h : (chart g inp fuel).2 = true) :
    ChartExact g inp (chart g inp fuel).1 :=
  ⟨chart_sound fuel, fun ht hi =>
    let ⟨_, hk, hj⟩ := mem_seqEnds_cons.mp (closed_complete (chart_closed h) hin ht hi)
    List.mem_singleton.mp hj ▸ hk⟩

theorem parseEnds_iff {ch : List Fact} (hx : ChartExact g inp ch) (j : Nat) :
    j ∈ parseEnds g ch ↔ ∃ t, Derives g inp (.nt g.start) 0 j t :=
  ⟨symEnds_sound hx.sound (X := .nt g.start) (i := 0), fun ⟨_, ht⟩ => hx.complete ht (Nat.zero_le _)⟩

/-- When the chart saturates, `isSentence` decides sentencehood, for every grammar (ambiguous,
nullable, cyclic) and input. -/
theorem isSentence_correct (hin : InputOK inp) (fuel : Nat) (b : Bool)
    (h : isSentence g inp fuel = some b) : b = true ↔ Sentence g inp := by
  obtain ⟨hcl, hb⟩ := Option.ite_none_right_eq_some.mp h
  cases hb
  have hx := parseEnds_iff (chart_exact hin hcl)
  simp only [List.any_eq_true, beq_iff_eq]
  constructor
  · rintro ⟨j, hj, hs⟩
    obtain ⟨t, ht⟩ := (hx j).mp hj
    exact ⟨t, j, ht, hs⟩
  · rintro ⟨t, j, ht, hs⟩
    exact ⟨j, (hx j).mpr ⟨t, ht⟩, hs⟩

end Pg
