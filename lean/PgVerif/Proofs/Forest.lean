import PgVerif.Model.Forest
import PgVerif.Proofs.ListLemmas
/-!
Counting and index decoding of the forest model are consistent with the list of
trees the forest represents, for every acyclic forest (no size bound).
The folds (`solsL`, `treesL`, `decodeL`) append one entry per node, so each has an equation for
`F ++ [n]`, and a statement about them is an induction from the right over a lemma about one node.
-/
namespace Pg

theorem getD_map_length {α : Type} (acc : List (List α)) (c : Nat) :
    (acc.map List.length).getD c 0 = (acc.getD c []).length :=
  getD_map List.length acc c []

inductive Forall2 {α β : Type} (R : α → β → Prop) : List α → List β → Prop where
  | nil : Forall2 R [] []
  | cons {a b l1 l2} (h : R a b) (t : Forall2 R l1 l2) : Forall2 R (a :: l1) (b :: l2)

theorem sum_const_map {α : Type} (l : List α) (m : Nat) :
    (l.map (fun _ => m)).sum = l.length * m := by
  rw [List.map_const', List.sum_replicate_nat]

theorem enumFrom_eq {α : Type} (l : List α) (k : Nat) :
    enumFrom k l = (l.zipIdx k).map (fun p => (p.2, p.1)) :=
  enum_eq_zipIdx enumFrom (fun _ => rfl) (fun _ _ _ => rfl) l k

theorem mem_enumFrom {α : Type} (l : List α) (k0 k : Nat) (a : α) :
    (k, a) ∈ enumFrom k0 l ↔ k0 ≤ k ∧ l[k - k0]? = some a :=
  mem_enum_iff enumFrom (fun _ => rfl) (fun _ _ _ => rfl) l k0 k a

theorem map_snd_enumFrom {α : Type} (l : List α) (k : Nat) : (enumFrom k l).map Prod.snd = l := by
  rw [enumFrom_eq, List.map_map]; exact List.zipIdx_map_fst k l

theorem map_fst_enumFrom {α : Type} (l : List α) (k : Nat) :
    (enumFrom k l).map Prod.fst = List.range' k l.length := by
  rw [enumFrom_eq, List.map_map]; exact List.zipIdx_map_snd k l

theorem solsL_snoc (F : Forest) (n : PNode) : solsL (F ++ [n]) = solsL F ++ [nodeSols (solsL F) n] := by
  rw [solsL, List.foldl_append]; rfl

theorem treesL_snoc (F : Forest) (n : PNode) :
    treesL (F ++ [n]) = treesL F ++ [nodeTrees (treesL F) (treesL F).length n] := by
  rw [treesL, List.foldl_append]; rfl

theorem decodeL_fst (F : Forest) : (decodeL F).1 = solsL F :=
  (List.foldl_hom Prod.fst fun _ _ => rfl).symm

theorem decodeL_snoc (F : Forest) (n : PNode) : (decodeL (F ++ [n])).2 =
    (decodeL F).2 ++ [decodeNode (solsL F) (decodeL F).2 (decodeL F).2.length n] := by
  rw [decodeL, List.foldl_append, ← decodeL_fst]; rfl

theorem length_treesL (F : Forest) : (treesL F).length = F.length := by
  induction F using snoc_induction with
  | nil => rfl
  | snoc F n ih => rw [treesL_snoc, List.length_append, List.length_append, ih]; rfl

theorem length_decodeL (F : Forest) : (decodeL F).2.length = F.length := by
  induction F using snoc_induction with
  | nil => rfl
  | snoc F n ih => rw [decodeL_snoc, List.length_append, List.length_append, ih]; rfl

theorem length_prodLists {α β : Type} (f : α → List β) (ch : List α) :
    (prodLists (ch.map f)).length = (ch.map fun x => (f x).length).foldr (· * ·) 1 := by
  induction ch with
  | nil => rfl
  | cons x ch ih =>
    simp only [List.map_cons, prodLists, List.foldr_cons, ← ih, List.length_flatMap, List.length_map,
      sum_const_map]

theorem altSols_eq (accT : List (List CTree)) (node k : Nat) (a : Alt) :
    altSols (accT.map List.length) a = (altTrees accT node k a).length := by
  simp only [altSols, altTrees, List.length_map, length_prodLists, getD_map_length]

theorem nodeSols_eq (accT : List (List CTree)) (node : Nat) (n : PNode) :
    nodeSols (accT.map List.length) n = (nodeTrees accT node n).length := by
  rw [nodeSols, nodeTrees, List.length_flatMap, List.sum_eq_foldr]
  conv => lhs; rw [← map_snd_enumFrom n.alts 0]
  simp only [List.map_map, Function.comp_def, ← altSols_eq]

theorem solsL_eq (F : Forest) : solsL F = (treesL F).map List.length := by
  induction F using snoc_induction with
  | nil => rfl
  | snoc F n ih =>
    rw [solsL_snoc, treesL_snoc, ih, nodeSols_eq _ (treesL F).length, List.map_append]; rfl

/-- **C03 (count).** `len(forest)` is the number of trees the forest represents. -/
theorem solutions_eq (F : Forest) (root : Nat) :
    solutions F root = (trees F root).length := by
  rw [solutions, trees, solsL_eq]; exact getD_map List.length _ _ []

/-- The mixed-radix digits of `c` select the `c`-th choice of one tree per child. -/
theorem decodeChildren_eq (trs : Nat → List CTree) (dec : List (Nat → Option CTree)) (ch : List Nat) :
    ∀ c, (∀ x ∈ ch, ∀ k, k < (trs x).length → dec.getD x (fun _ => none) k = (trs x)[k]?) →
      c < (ch.map fun x => (trs x).length).foldr (· * ·) 1 →
      decodeChildren dec ch (splitCounter (ch.map fun x => (trs x).length) c) = (prodLists (ch.map trs))[c]? := by
  induction ch with
  | nil =>
    intro c _ hc
    obtain rfl : c = 0 := Nat.lt_one_iff.mp hc
    rfl
  | cons x ch ih =>
    intro c hdec hc
    rw [List.map_cons, List.foldr_cons, ← length_prodLists] at hc
    have hpos : 0 < (prodLists (ch.map trs)).length :=
      Nat.pos_of_ne_zero fun h0 => by rw [h0, Nat.mul_zero] at hc; cases hc
    have hq := (Nat.div_lt_iff_lt_mul hpos).mpr hc
    rw [List.map_cons, List.map_cons, splitCounter, ← length_prodLists, decodeChildren,
      hdec x (List.mem_cons_self ..) _ hq,
      ih _ (fun y hy => hdec y (List.mem_cons_of_mem _ hy)) (length_prodLists .. ▸ Nat.mod_lt _ hpos),
      prodLists, getElem?_flatMap_const _ _ hpos fun t : CTree => List.length_map (t :: ·),
      List.getElem?_eq_getElem hq, Option.bind_some, List.getElem?_map]
    cases (prodLists _)[c % _]? <;> rfl

/-- `bucket` numbers the blocks as `enumFrom` does; `w a` is the length of `a`'s block whatever its number. -/
theorem bucket_enumFrom {α β : Type} (f : Nat → α → List β) (w : α → Nat) (hw : ∀ k a, (f k a).length = w a)
    (l : List α) : ∀ (k0 c : Nat), c < (l.map w).foldr (· + ·) 0 →
    ∃ k c' a, bucket (l.map w) c k0 = some (k, c') ∧ (k, a) ∈ enumFrom k0 l ∧ c' < w a ∧
      ((enumFrom k0 l).flatMap fun ka => f ka.1 ka.2)[c]? = (f k a)[c']? := by
  induction l with
  | nil => intro _ c hc; cases hc
  | cons a l ih =>
    intro k0 c hc
    rw [List.map_cons, bucket, enumFrom, List.flatMap_cons]
    by_cases hle : w a ≤ c
    · obtain ⟨k, c', a', h1, h2, h3, h4⟩ := ih (k0 + 1) (c - w a) (Nat.sub_lt_left_of_lt_add hle hc)
      refine ⟨k, c', a', ?_, List.mem_cons_of_mem _ h2, h3, ?_⟩
      · rw [if_pos hle, h1]
      · rw [List.getElem?_append_right (hw .. ▸ hle), hw, h4]
    · have hlt := Nat.lt_of_not_le hle
      exact ⟨k0, c, a, if_neg hle, List.mem_cons_self, hlt, List.getElem?_append_left (hw .. ▸ hlt)⟩

theorem splitCounter_lt (ws : List Nat) :
    ∀ c, c < ws.foldr (· * ·) 1 → Forall2 (fun w k => k < w) ws (splitCounter ws c) := by
  induction ws with
  | nil => intro _ _; exact .nil
  | cons w ws ih =>
    intro c hc
    have hm : 0 < ws.foldr (· * ·) 1 := Nat.pos_of_ne_zero fun h0 => by
      rw [List.foldr_cons, h0, Nat.mul_zero] at hc; cases hc
    exact .cons ((Nat.div_lt_iff_lt_mul hm).mpr hc) (ih _ (Nat.mod_lt _ hm))

/-- `pickAlt` skips the search for counter 0 and for a single alternative; positive weights make
that agree with it. -/
theorem pickAlt_eq_bucket (ws : List Nat) (counter : Nat) (hpos : ∀ w ∈ ws, 0 < w)
    (hc : counter < ws.foldr (· + ·) 0) : pickAlt ws counter = bucket ws counter 0 := by
  unfold pickAlt
  by_cases hcond : 0 < counter ∧ 1 < ws.length
  · rw [if_pos hcond]
  · rw [if_neg hcond]
    cases ws with
    | nil => cases hc
    | cons w rest =>
      rw [List.isEmpty_cons, if_neg Bool.false_ne_true, bucket]
      cases rest with
      | nil => rw [if_neg (Nat.not_le.mpr (show counter < w from hc))]
      | cons _ _ =>
        obtain rfl : counter = 0 :=
          Nat.eq_zero_of_not_pos fun h => hcond ⟨h, Nat.succ_lt_succ (Nat.succ_pos _)⟩
        rw [if_neg (Nat.not_le.mpr (hpos w (List.mem_cons_self ..)))]

theorem altSols_pos (sols : List Nat) (a : Alt) (h : ∀ c ∈ a.children, 0 < sols.getD c 0) :
    0 < altSols sols a :=
  List.prod_pos_iff_forall_pos_nat.mpr fun w hw => by
    obtain ⟨c, hc, rfl⟩ := List.mem_map.mp hw
    exact h c hc

theorem foldr_add_map_ge {α : Type} (h : α → Nat) (alts : List α) (a : α) (ha : a ∈ alts) :
    h a ≤ (alts.map h).foldr (· + ·) 0 := by
  induction alts with
  | nil => cases ha
  | cons b bs ih =>
    rw [List.map_cons, List.foldr_cons]
    rcases List.mem_cons.mp ha with rfl | hb
    · exact Nat.le_add_right ..
    · exact Nat.le_trans (ih hb) (Nat.le_add_left ..)

/-- One node of `treeAt_spec`: `h` is what its induction hypothesis says of the children. -/
theorem decodeNode_spec (ts : List (List CTree)) (dec : List (Nat → Option CTree)) (node : Nat) (n : PNode)
    (hne : n.alts ≠ [])
    (h : ∀ a ∈ n.alts, ∀ c ∈ a.children, 0 < (ts.getD c []).length ∧
      ∀ k, k < (ts.getD c []).length → dec.getD c (fun _ => none) k = (ts.getD c [])[k]?) :
    0 < (nodeTrees ts node n).length ∧ ∀ i, i < (nodeTrees ts node n).length →
      decodeNode (ts.map List.length) dec node n i = (nodeTrees ts node n)[i]? := by
  have hws : ∀ a ∈ n.alts, 0 < altSols (ts.map List.length) a := fun a ha =>
    altSols_pos _ a fun c hc => getD_map_length ts c ▸ (h a ha c hc).1
  rw [← nodeSols_eq]
  constructor
  · obtain ⟨a, ha⟩ := List.exists_mem_of_ne_nil _ hne
    exact Nat.lt_of_lt_of_le (hws a ha) (foldr_add_map_ge _ _ a ha)
  intro i hi
  obtain ⟨k, c', a, hb, hmem, hc', hget⟩ :=
    bucket_enumFrom (altTrees ts node) _ (fun k a => (altSols_eq ts node k a).symm) n.alts 0 i hi
  have hak : n.alts[k]? = some a := ((mem_enumFrom n.alts 0 k a).mp hmem).2
  have hch := decodeChildren_eq (fun c => ts.getD c []) dec a.children c'
    fun c hc => (h a (List.mem_of_getElem? hak) c hc).2
  simp only [← getD_map_length] at hch
  unfold decodeNode
  rw [pickAlt_eq_bucket _ i (List.forall_mem_map.mpr hws) hi, hb]
  simp only [hak, hch hc']
  rw [nodeTrees, hget, altTrees, List.getElem?_map]
  cases (prodLists (a.children.map fun c => ts.getD c []))[c']? <;> rfl

theorem wf_spec (F : Forest) (hwf : F.wf = true) (i : Nat) (n : PNode) (hn : F[i]? = some n) :
    n.alts ≠ [] ∧ ∀ a ∈ n.alts, ∀ c ∈ a.children, c < i := by
  have := List.all_eq_true.mp hwf (i, n) ((mem_enumFrom F 0 i n).mpr ⟨Nat.zero_le _, hn⟩)
  simpa only [ne_eq, Bool.and_eq_true, Bool.not_eq_eq_eq_not, Bool.not_true, List.isEmpty_eq_false_iff,
    List.all_eq_true, decide_eq_true_eq] using this

/-- Well-formedness is taken node by node (`wf_spec`'s conclusion), not as `F.wf = true`: in that
form it passes from `F ++ [n]` to `F`, which the induction needs. -/
theorem treeAt_spec (F : Forest) :
    (∀ (i : Nat) (n : PNode), F[i]? = some n → n.alts ≠ [] ∧ ∀ a ∈ n.alts, ∀ c ∈ a.children, c < i) →
    ∀ id, id < F.length → 0 < (trees F id).length ∧
      ∀ i, i < (trees F id).length → treeAt F id i = (trees F id)[i]? := by
  induction F using snoc_induction with
  | nil => intro _ id hid; cases hid
  | snoc F n ih =>
    intro hwf id hid
    have ih := ih fun i m h => hwf i m (by
      rw [List.getElem?_append_left (List.getElem?_eq_some_iff.mp h).1]; exact h)
    obtain ⟨hne, hch⟩ := hwf F.length n List.getElem?_concat_length
    unfold trees treeAt
    rw [treesL_snoc, decodeL_snoc, getD_snoc, getD_snoc, length_treesL, length_decodeL]
    by_cases hlt : id < F.length
    · rw [if_pos hlt, if_pos hlt]; exact ih id hlt
    · rw [List.length_append] at hid
      obtain rfl : id = F.length := Nat.le_antisymm (Nat.le_of_lt_succ hid) (Nat.le_of_not_lt hlt)
      rw [if_neg hlt, if_neg hlt, if_pos rfl, if_pos rfl, solsL_eq]
      exact decodeNode_spec _ _ _ n hne fun a ha c hc => ih c (hch a ha c hc)

/-- **C03 (indexing).** `forest[i]`, `i < len(forest)`, is the `i`-th tree of the tree list. -/
theorem treeAt_eq_get (F : Forest) (hwf : F.wf = true) (root : Nat) (hr : root < F.length)
    (i : Nat) (hi : i < solutions F root) :
    treeAt F root i = (trees F root)[i]? :=
  (treeAt_spec F (wf_spec F hwf) root hr).2 i (solutions_eq F root ▸ hi)

theorem trees_oob (F : Forest) (root : Nat) (h : F.length ≤ root) : trees F root = [] := by
  rw [trees, List.getD_eq_getElem?_getD, List.getElem?_eq_none (length_treesL F ▸ h)]; rfl

end Pg
