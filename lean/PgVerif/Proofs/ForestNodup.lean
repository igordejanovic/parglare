import PgVerif.Proofs.Forest
/-!
The trees a forest represents are pairwise different (as choices: which
alternative is taken at which ambiguity node), so `forest[i]`, `i < len(forest)`,
never returns the same tree for two indices; and `get_first_tree()` is `forest[0]`.
-/
namespace Pg

theorem nodup_prodLists {α : Type} (ls : List (List α)) (h : ∀ l ∈ ls, l.Nodup) :
    (prodLists ls).Nodup := by
  induction ls with
  | nil => exact List.pairwise_singleton _ _
  | cons l ls ih =>
    refine List.pairwise_flatMap.mpr ⟨fun x _ => ?_, ?_⟩
    · exact List.Pairwise.map _ (fun a b hne hab => hne (List.tail_eq_of_cons_eq hab))
        (ih fun l' hl' => h l' (List.mem_cons_of_mem _ hl'))
    · refine (h l (List.mem_cons_self ..)).imp fun hab x hx y hy hxy => ?_
      obtain ⟨_, _, rfl⟩ := List.mem_map.mp hx
      obtain ⟨_, _, rfl⟩ := List.mem_map.mp hy
      exact hab (List.head_eq_of_cons_eq hxy)

theorem nodup_nodeTrees (acc : List (List CTree)) (node : Nat) (n : PNode)
    (hacc : ∀ l ∈ acc, l.Nodup) : (nodeTrees acc node n).Nodup := by
  refine List.pairwise_flatMap.mpr ⟨fun ka _ => ?_, ?_⟩
  · refine List.Pairwise.map _ (fun x y hne hxy => hne (CTree.mk.inj hxy).2.2) (nodup_prodLists _ fun l hl => ?_)
    obtain ⟨c, _, rfl⟩ := List.mem_map.mp hl
    exact getD_prop hacc List.nodup_nil c
  · -- blocks of different alternatives differ in the alternative's index
    have hk : (enumFrom 0 n.alts).Pairwise fun p q => p.1 ≠ q.1 :=
      List.pairwise_map.mp (map_fst_enumFrom n.alts 0 ▸ List.nodup_range')
    refine hk.imp fun hpq x hx y hy hxy => ?_
    obtain ⟨_, _, rfl⟩ := List.mem_map.mp hx
    obtain ⟨_, _, rfl⟩ := List.mem_map.mp hy
    exact hpq (CTree.mk.inj hxy).2.1

theorem nodup_treesL (F : Forest) : ∀ l ∈ treesL F, l.Nodup := by
  induction F using snoc_induction with
  | nil => intro l hl; cases hl
  | snoc F n ih =>
    intro l hl
    rw [treesL_snoc] at hl
    rcases List.mem_append.mp hl with h | h
    · exact ih l h
    · rw [List.mem_singleton.mp h]; exact nodup_nodeTrees _ _ n ih

theorem trees_nodup (F : Forest) (root : Nat) : (trees F root).Nodup :=
  getD_prop (nodup_treesL F) List.nodup_nil root

theorem treeAt_inj (F : Forest) (hwf : F.wf = true) (root : Nat) (hr : root < F.length)
    (i j : Nat) (hi : i < solutions F root) (hj : j < solutions F root)
    (h : treeAt F root i = treeAt F root j) : i = j := by
  rw [treeAt_eq_get F hwf root hr i hi, treeAt_eq_get F hwf root hr j hj] at h
  exact (List.getElem?_inj (solutions_eq F root ▸ hi) (trees_nodup F root)).mp h

theorem splitCounter_zero (ws : List Nat) : splitCounter ws 0 = ws.map (fun _ => 0) := by
  induction ws with
  | nil => rfl
  | cons w ws ih => rw [splitCounter, Nat.zero_div, Nat.zero_mod, ih]; rfl

/-- The entry `firstL` appends for one node. -/
def firstNode (acc : List (Option CTree)) (node : Nat) (n : PNode) : Option CTree :=
  match n.alts with
  | [] => none
  | a :: _ =>
    (a.children.foldr (fun c r => match acc.getD c none, r with
      | some t, some ts => some (t :: ts)
      | _, _ => none) (some [])).map (CTree.mk node 0)

theorem firstL_snoc (F : Forest) (n : PNode) :
    firstL (F ++ [n]) = firstL F ++ [firstNode (firstL F) (firstL F).length n] := by
  rw [firstL, List.foldl_append]; rfl

theorem getD_map_zero (dec : List (Nat → Option CTree)) (c : Nat) :
    (dec.map (· 0)).getD c none = dec.getD c (fun _ => none) 0 :=
  getD_map (fun d : Nat → Option CTree => d 0) dec c fun _ => none

theorem decodeChildren_zero (dec : List (Nat → Option CTree)) (cs : List Nat) :
    decodeChildren dec cs (cs.map (fun _ => 0)) =
      cs.foldr (fun c r => match (dec.map (· 0)).getD c none, r with
        | some t, some ts => some (t :: ts)
        | _, _ => none) (some []) := by
  induction cs with
  | nil => rfl
  | cons c cs ih =>
    rw [List.map_cons, decodeChildren, ih, List.foldr_cons, getD_map_zero]
    rfl

theorem decodeNode_zero (sols : List Nat) (dec : List (Nat → Option CTree)) (node : Nat) (n : PNode) :
    decodeNode sols dec node n 0 = firstNode (dec.map (· 0)) node n := by
  unfold decodeNode pickAlt firstNode
  cases n.alts with
  | nil => rfl
  | cons a rest =>
    simp only [Nat.lt_irrefl, false_and, if_false, List.map_cons, List.isEmpty_cons, Bool.false_eq_true,
      List.getElem?_cons_zero, splitCounter_zero, List.map_map, Function.comp_def, decodeChildren_zero]
    cases a.children.foldr _ _ <;> rfl

theorem firstL_eq (F : Forest) : firstL F = (decodeL F).2.map (· 0) := by
  induction F using snoc_induction with
  | nil => rfl
  | snoc F n ih => rw [firstL_snoc, decodeL_snoc, ih, List.map_append, List.length_map, ← decodeNode_zero]; rfl

end Pg
