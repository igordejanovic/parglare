import PgVerif.Spec.CFG
import PgVerif.Proofs.Lex
/-!
The executable tree checker decides the derivation relation: a derivation passes its three tests by
induction on the derivation, and trees that pass them form a derivation by recursion over the trees.
-/
namespace Pg

theorem chain_cons_eq_some {inp : Input} {p j : Nat} {l : Leaf} {ls : List Leaf} :
    chain inp p (l :: ls) = some j ↔
      (l.s = inp.skip p ∧ l.s < l.e ∧ inp.mlen l.term l.s = some (l.e - l.s)) ∧ chain inp l.e ls = some j :=
  Option.ite_none_right_eq_some

theorem chain_append_eq_some {inp : Input} {p j : Nat} {l1 l2 : List Leaf} :
    chain inp p (l1 ++ l2) = some j ↔ ∃ k, chain inp p l1 = some k ∧ chain inp k l2 = some j := by
  induction l1 generalizing p with
  | nil =>
    refine ⟨fun h => ⟨p, rfl, h⟩, ?_⟩
    rintro ⟨_, ⟨⟩, h⟩
    exact h
  | cons l ls ih =>
    rw [List.cons_append, chain_cons_eq_some, ih]
    simp only [chain_cons_eq_some, exists_and_left, and_assoc]

theorem DerivesSeq.append {g : Grammar} {inp : Input} {Xs Ys : List Sym} {i k j : Nat}
    {ts us : List Tree} (h1 : DerivesSeq g inp Xs i k ts) (h2 : DerivesSeq g inp Ys k j us) :
    DerivesSeq g inp (Xs ++ Ys) i j (ts ++ us) := by
  induction h1 with
  | nil i => exact h2
  | tok t i l j Xs ts h hl _ ih => exact DerivesSeq.tok t i l _ _ _ h hl (ih h2)
  | prod p pr i k j s e cs Xs ts hp hcs _ _ ih2 =>
    exact DerivesSeq.prod p pr i k _ s e cs _ _ hp hcs (ih2 h2)

theorem derivesSeq_mono {g : Grammar} {inp : Input} (hm : InputMono inp) {Xs : List Sym} {i j : Nat} {ts : List Tree}
    (h : DerivesSeq g inp Xs i j ts) : i ≤ j := by
  induction h with
  | nil i => exact Nat.le_refl _
  | tok t i l j Xs ts h hl _ ih =>
    exact Nat.le_trans (hm.skip_ge i) (Nat.le_trans (Nat.le_add_right _ l) ih)
  | prod p pr i k j s e cs Xs ts hp _ _ ih1 ih2 => exact Nat.le_trans ih1 ih2

theorem DerivesSeq.checks {g : Grammar} {inp : Input} {Xs : List Sym} {i j : Nat} {ts : List Tree}
    (h : DerivesSeq g inp Xs i j ts) :
    Tree.validL g ts = true ∧ Tree.symsAre g ts Xs = true ∧ chain inp i (Tree.yieldL ts) = some j := by
  induction h with
  | nil i => exact ⟨rfl, rfl, rfl⟩
  | tok t i l j Xs ts h hl _ ih =>
    obtain ⟨h1, h2, h3⟩ := ih
    refine ⟨by rw [Tree.validL, h1]; rfl, ?_, ?_⟩
    · simp only [Tree.symsAre, Tree.sym, h2, beq_self_eq_true, Bool.and_self]
    · refine chain_cons_eq_some.mpr ⟨⟨rfl, Nat.lt_add_of_pos_right hl, ?_⟩, h3⟩
      rw [Nat.add_sub_cancel_left]; exact h
  | prod p pr i k j s e cs Xs ts hp _ _ ih1 ih2 =>
    obtain ⟨a1, a2, a3⟩ := ih1
    obtain ⟨b1, b2, b3⟩ := ih2
    refine ⟨?_, ?_, chain_append_eq_some.mpr ⟨k, a3, b3⟩⟩
    · simp only [Tree.validL, Tree.valid, hp, a2, a1, b1, Bool.and_self]
    · simp only [Tree.symsAre, Tree.sym, hp, Option.map_some, b2, beq_self_eq_true, Bool.and_self]

theorem Tree.derivesSeq_of_checks (g : Grammar) (inp : Input) :
    ∀ (ts : List Tree) (Xs : List Sym) (i j : Nat), Tree.validL g ts = true →
      Tree.symsAre g ts Xs = true → chain inp i (Tree.yieldL ts) = some j →
      DerivesSeq g inp Xs i j ts := by
  intro ts
  -- the recursor of the nested type with both motives: a `mutual` structural recursion proves the
  -- same and costs twice as much to check
  induction ts using Tree.rec_1
    (motive_1 := fun t => ∀ X i j, t.valid g = true → t.sym g = some X →
      chain inp i t.yield = some j → DerivesSeq g inp [X] i j [t]) with
  | leaf t s e X i j _ hs hc =>
    cases Option.some.inj hs
    obtain ⟨⟨h1, h2, h3⟩, hj⟩ := chain_cons_eq_some.mp hc
    cases Option.some.inj hj
    change s = inp.skip i at h1
    subst h1
    have he : e = inp.skip i + (e - inp.skip i) := (Nat.add_sub_cancel' (Nat.le_of_lt h2)).symm
    rw [he]
    exact .tok t i _ _ [] [] h3 (Nat.sub_pos_of_lt h2) (.nil _)
  | node p s e cs ih X i j hv hs hc =>
    obtain ⟨pr, hp, rfl⟩ := Option.map_eq_some_iff.mp hs
    rw [Tree.valid, hp, Bool.and_eq_true] at hv
    exact .prod p pr i j j s e cs [] [] hp (ih pr.rhs i j hv.2 hv.1 hc) (.nil _)
  | nil =>
    intro Xs i j _ hs hc
    cases Xs with
    | nil => cases Option.some.inj hc; exact .nil _
    | cons => cases hs
  | cons t ts iht ihts =>
    intro Xs i j hv hs hc
    cases Xs with
    | nil => cases hs
    | cons X Xs =>
      rw [Tree.validL, Bool.and_eq_true] at hv
      rw [Tree.symsAre, Bool.and_eq_true, beq_iff_eq] at hs
      obtain ⟨k, hk, hc⟩ := chain_append_eq_some.mp hc
      exact DerivesSeq.append (iht X i k hv.1 hs.1 hk) (ihts Xs k j hv.2 hs.2 hc)

theorem derivesSeqB_iff (g : Grammar) (inp : Input) (Xs : List Sym) (i j : Nat) (ts : List Tree) :
    Tree.derivesSeqB g inp Xs i j ts = true ↔ DerivesSeq g inp Xs i j ts := by
  simp only [Tree.derivesSeqB, Bool.and_eq_true, beq_iff_eq, and_assoc]
  exact ⟨fun h => Tree.derivesSeq_of_checks g inp ts Xs i j h.1 h.2.1 h.2.2, DerivesSeq.checks⟩

/-- The checker's three tests on one tree, as propositions: the shape in which `Tree.derivesB` is
produced and consumed. -/
theorem derives_iff_checks {g : Grammar} {inp : Input} {X : Sym} {i j : Nat} {t : Tree} :
    Derives g inp X i j t ↔
      t.valid g = true ∧ t.sym g = some X ∧ chain inp i t.yield = some j := by
  rw [Derives, ← derivesSeqB_iff]
  simp only [Tree.derivesSeqB, Tree.validL, Tree.symsAre, Tree.yieldL, Bool.and_true, List.append_nil,
    Bool.and_eq_true, beq_iff_eq, and_assoc]

theorem derivesB_iff (g : Grammar) (inp : Input) (X : Sym) (i j : Nat) (t : Tree) :
    t.derivesB g inp X i j = true ↔ Derives g inp X i j t := by
  simp only [Tree.derivesB, Bool.and_eq_true, beq_iff_eq, and_assoc, derives_iff_checks]

/-- The single-tree case of `Tree.derivesSeq_of_checks`. -/
theorem Tree.complete_aux (g : Grammar) (inp : Input) :
    ∀ (t : Tree) (X : Sym) (i j : Nat), t.valid g = true → t.sym g = some X →
      chain inp i t.yield = some j → DerivesSeq g inp [X] i j [t] :=
  fun _ _ _ _ hv hs hc => derives_iff_checks.mpr ⟨hv, hs, hc⟩

end Pg
