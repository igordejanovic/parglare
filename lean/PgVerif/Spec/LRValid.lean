import PgVerif.Model.Table
/-!
A completeness validator for LR tables, in the style of Jourdan, Pottier and
Leroy ("Validating LR(1) parsers"): given a table, the item sets its states
stand for (production, dot, lookahead terminals) and FIRST data, a handful of
local, decidable conditions — FIRST data closed under the grammar, the start
item present, every item set closed, every transition and reduction an item
calls for present in the table — imply that **every** sentence has an accepting
run of the nondeterministic LR automaton over the table (`lr_complete`,
`Proofs/LRUnamb.lean`, over `Proofs/LRItems.lean` and `LRComplete.lean`). The
conditions are evaluated on the tables and item sets of the implementation;
nothing about how they were built is assumed.
-/
namespace Pg
namespace LRV

structure VItem where
  prod : Nat
  dot  : Nat
  la   : List Nat
deriving DecidableEq, Repr, Inhabited

/-- FIRST data: `fst A` = terminals that may begin what `A` derives, `nul A` =
`A` may derive the empty string. Only closedness is required of them (so any
over-approximation is acceptable). -/
structure FirstData where
  fst : Nat → List Nat
  nul : Nat → Bool

def firstSeq (F : FirstData) : List Sym → List Nat → List Nat
  | [], la => la
  | .t a :: _, _ => [a]
  | .nt B :: β, la => F.fst B ++ (if F.nul B then firstSeq F β la else [])

def nullableSeq (F : FirstData) : List Sym → Bool
  | [] => true
  | .t _ :: _ => false
  | .nt B :: β => F.nul B && nullableSeq F β

def subsetB (l1 l2 : List Nat) : Bool := l1.all (fun a => l2.contains a)

def FirstData.closed (F : FirstData) (g : Grammar) : Bool :=
  g.prods.all (fun pr =>
    subsetB (firstSeq F pr.rhs []) (F.fst pr.lhs) && (!nullableSeq F pr.rhs || F.nul pr.lhs))

/-- The item set holds `(p, d, la')` with `la ⊆ la'`. -/
def hasItem (items : List VItem) (p d : Nat) (la : List Nat) : Bool :=
  items.any (fun it => it.prod == p && it.dot == d && subsetB la it.la)

/-- What one item of state `s` demands of its item set and of the table. -/
def itemOK (g : Grammar) (T : Table) (I : Nat → List VItem) (F : FirstData) (s : Nat) (it : VItem) : Bool :=
  match g.prod? it.prod with
  | none => false
  | some pr =>
    match pr.rhs[it.dot]? with
    | none =>
      -- complete item: the reduction is offered on every lookahead
      it.la.all (fun a => (T.actions s a).contains (.reduce it.prod))
    | some (.nt B) =>
      -- closure: every production of `B` with the lookaheads FIRST(β la)
      (List.range g.prods.length).all (fun q =>
        match g.prod? q with
        | none => true
        | some pq => pq.lhs != B || hasItem (I s) q 0 (firstSeq F (pr.rhs.drop (it.dot + 1)) it.la)) &&
      -- goto on `B` into a state holding the advanced item
      (match T.goto s B with
       | none => false
       | some s' => decide (s' < T.n) && hasItem (I s') it.prod (it.dot + 1) it.la)
    | some (.t a) =>
      if a = STOP then (T.actions s STOP).contains .accept
      else (T.actions s a).any (fun act =>
        match act with
        | .shift s' => decide (s' < T.n) && hasItem (I s') it.prod (it.dot + 1) it.la
        | _ => false)

/-- The validator. -/
def lrComplete (g : Grammar) (T : Table) (I : Nat → List VItem) (F : FirstData) : Bool :=
  F.closed g && decide (0 < T.n) &&
  (match g.prod? 0 with
   | some pr0 => pr0.rhs == [.nt g.start, .t STOP]
   | none => false) &&
  hasItem (I 0) 0 0 [] &&
  (List.range T.n).all (fun s => (I s).all (itemOK g T I F s))

/-! ### Soundness of the item sets (correct-prefix property)

The converse check: every item of a state is *justified* — a kernel item (dot > 0) by the item
before the dot in **every** predecessor state, an initial item (dot = 0) by the LR(0) closure of the
state's kernel (of the start item in state 0). With it, the symbols along any path of the automaton
begin a sentential form (`Proofs/LRViable.lean`). -/

/-- LR(0) closure of a list of (production, dot) pairs, `fuel` rounds. -/
def closeRound (g : Grammar) (its : List (Nat × Nat)) : List (Nat × Nat) :=
  its ++ its.flatMap (fun (pd : Nat × Nat) =>
    match g.prod? pd.1 with
    | none => []
    | some pr =>
      match pr.rhs[pd.2]? with
      | some (.nt B) =>
        (List.range g.prods.length).filterMap (fun q =>
          match g.prod? q with
          | some pq => if pq.lhs = B then some (q, 0) else none
          | none => none)
      | _ => [])

def closeIter (g : Grammar) : Nat → List (Nat × Nat) → List (Nat × Nat)
  | 0, its => its
  | n + 1, its => closeIter g n (closeRound g its).eraseDups

def itemSoundOK (g : Grammar) (T : Table) (I : Nat → List VItem) (s : Nat) (it : VItem) : Bool :=
  match g.prod? it.prod with
  | none => false
  | some pr =>
    decide (it.dot ≤ pr.rhs.length) &&
    (if it.dot = 0 then
      let kernel := ((I s).filter (fun k => k.dot != 0)).map (fun k => (k.prod, k.dot)) ++
        (if s = 0 then [(0, 0)] else [])
      (closeIter g (g.prods.length + 1) kernel).contains (it.prod, 0)
    else
      decide (s ≠ 0) &&
      (List.range T.n).all (fun s0 => !T.edge s0 s ||
        (I s0).any (fun k => k.prod == it.prod && k.dot + 1 == it.dot &&
          pr.rhs[k.dot]? == some (T.sym s))))

/-- The item sets are sound. -/
def lrSound (g : Grammar) (T : Table) (I : Nat → List VItem) : Bool :=
  decide (0 < T.n) && (g.prod? 0).isSome &&
  (List.range T.n).all (fun s => !(I s).isEmpty && (I s).all (itemSoundOK g T I s))

end LRV
end Pg
