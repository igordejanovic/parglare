import PgVerif.Generated.Source
/-!
# C19 — string terminals match their literal text

Model of `StringRecognizer.__call__` (`parglare/grammar.py`) on code-point lists: the slice
of the input at the position, of the text's length, equals the text (both lower-cased under
`ignore_case`); `C19_literal_match`: it matches at `pos` iff the text occurs there literally.
The unescape chains of `act_str_term` and `act_recognizer_str` are modelled as sequential
replace-all passes with the (pattern, replacement) pairs regenerated from the source: a text
without a backslash is left unchanged by every chain whose patterns all start with a backslash
(`C19_unescape_identity`), and the regenerated chains are such (`C19_chain_patterns`). Texts
with backslashes, dots, newlines, texts equal to symbol names and the KEYWORD rewrite are
compared against a literal reference scanner; the deviations found are recorded findings
(DESIGN.md).
-/
namespace Pg

def lower (c : Nat) : Nat := if 65 ≤ c ∧ c ≤ 90 then c + 32 else c

/-- `StringRecognizer.__call__`. -/
def strMatch (ignoreCase : Bool) (text input : List Nat) (pos : Nat) : Bool :=
  let slice := (input.drop pos).take text.length
  if ignoreCase then slice.map lower == text.map lower else slice == text

def OccursAt (text input : List Nat) (pos : Nat) : Prop :=
  ∃ pre post, input = pre ++ text ++ post ∧ pre.length = pos

theorem take_drop_eq_iff (text input : List Nat) (pos : Nat) (hp : pos ≤ input.length) :
    (input.drop pos).take text.length = text ↔ OccursAt text input pos := by
  constructor
  · intro h
    refine ⟨input.take pos, (input.drop pos).drop text.length, ?_, List.length_take_of_le hp⟩
    have := List.take_append_drop text.length (input.drop pos)
    rw [h] at this
    rw [List.append_assoc, this, List.take_append_drop]
  · rintro ⟨pre, post, rfl, rfl⟩
    rw [List.append_assoc, List.drop_left, List.take_left]

/-- **Literal match.** The recognizer of a string terminal matches at `pos` iff
its text occurs there literally. -/
theorem C19_literal_match (text input : List Nat) (pos : Nat) (hp : pos ≤ input.length) :
    strMatch false text input pos = true ↔ OccursAt text input pos := by
  simp only [strMatch, Bool.false_eq_true, if_false, beq_iff_eq]
  exact take_drop_eq_iff text input pos hp

theorem C19_literal_match_ignore_case (text input : List Nat) (pos : Nat) :
    strMatch true text input pos = true ↔
      ((input.drop pos).take text.length).map lower = text.map lower := by
  rw [strMatch, if_pos rfl, beq_iff_eq]

/-- Replace every (non-overlapping, leftmost) occurrence of `pat` by `rep`;
fuel = length of the input. -/
def replaceAll (pat rep : List Char) : Nat → List Char → List Char
  | 0, s => s
  | _, [] => []
  | fuel + 1, c :: cs =>
    if pat ≠ [] ∧ pat.isPrefixOf (c :: cs) then rep ++ replaceAll pat rep fuel ((c :: cs).drop pat.length)
    else c :: replaceAll pat rep fuel cs

def applyChain (chain : List (List Char × List Char)) (s : List Char) : List Char :=
  chain.foldl (fun acc pr => replaceAll pr.1 pr.2 acc.length acc) s

/-- A pattern holding a character the text lacks is no prefix of any of its tails, so no pass
replaces anything. -/
theorem replaceAll_id (pat rep : List Char) (c0 : Char) (hp : c0 ∈ pat)
    (fuel : Nat) (s : List Char) (hs : c0 ∉ s) : replaceAll pat rep fuel s = s := by
  fun_induction replaceAll pat rep fuel s with
  | case1 s => rfl
  | case2 fuel h => rfl
  | case3 fuel c cs hcond ih => exact absurd ((List.isPrefixOf_iff_prefix.1 hcond.2).mem hp) hs
  | case4 fuel c cs hcond ih => rw [ih (fun h => hs (List.mem_cons_of_mem _ h))]

/-- **Unescape identity.** A text without a backslash is unchanged by any chain
whose patterns all start with a backslash. -/
theorem C19_unescape_identity (chain : List (List Char × List Char))
    (hc : ∀ pr ∈ chain, pr.1.head? = some '\\') (s : List Char) (hs : '\\' ∉ s) :
    applyChain chain s = s :=
  List.foldlRecOn (motive := (· = s)) chain _ rfl fun _ hb pr hpr => by
    rw [hb]; exact replaceAll_id pr.1 pr.2 '\\' (List.mem_of_head? (hc pr hpr)) _ s hs

theorem C19_chain_patterns :
    (∀ pr ∈ Src.strTermChain, pr.1.toList.head? = some '\\') ∧
    (∀ pr ∈ Src.recognizerStrChain, pr.1.toList.head? = some '\\') := by
  decide +kernel

example : strMatch false [97, 98] [120, 97, 98, 121] 1 = true := by decide
example : strMatch true [97, 66] [65, 98] 0 = true := by decide

end Pg
