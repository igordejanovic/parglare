import PgVerif.Proofs.ForestConcrete
/-!
# C03 — Forest packs each derivation once; counting and indexing are consistent

About the forest model (`PgVerif/Model/Forest.lean`), for every acyclic forest: any number of
nodes, alternatives and children, counts of any magnitude (`Nat` is unbounded like Python's `int`).
-/
namespace Pg

/-- `len(forest)` / `forest.solutions` is the number of trees the forest represents. -/
theorem C03_solutions_eq (F : Forest) (root : Nat) :
    solutions F root = (trees F root).length :=
  solutions_eq F root

/-- `forest[i]` (index decoding by bucket search and weighted mixed radix) is
the `i`-th tree of the forest's tree list, for every index in range. -/
theorem C03_treeAt_eq_get (F : Forest) (hwf : F.wf = true) (root : Nat) (hr : root < F.length)
    (i : Nat) (hi : i < solutions F root) :
    treeAt F root i = (trees F root)[i]? :=
  treeAt_eq_get F hwf root hr i hi

/-- In range, `get_tree`/`get_nonlazy_tree` return that tree. -/
theorem C03_index_in_range (F : Forest) (hwf : F.wf = true) (root : Nat) (hr : root < F.length)
    (i : Nat) (hi : i < solutions F root) :
    ∃ t, getTree F root i = .tree t ∧ (trees F root)[i]? = some t := by
  have hlt : i < (trees F root).length := solutions_eq F root ▸ hi
  refine ⟨(trees F root)[i], ?_, List.getElem?_eq_getElem hlt⟩
  rw [getTree, if_neg (fun h => Nat.not_le_of_lt hi h.2), treeAt_eq_get F hwf root hr i hi,
    List.getElem?_eq_getElem hlt]

/-- Any index `≥ len(forest)` raises IndexError (after the repair F-IDX-1; index
0 is exempt by design so that cyclic forests can hand out their first tree). -/
theorem C03_index_oob (F : Forest) (root i : Nat) (h0 : 0 < i) (hi : solutions F root ≤ i) :
    getTree F root i = .indexError := by
  unfold getTree
  rw [if_pos ⟨h0, hi⟩]

/-- Lazy, non-lazy and repeated access are all modelled by `getTree`, a function of the forest and
the index (the lazy proxy evaluates the same `_enumerate_children` with the same counter on
access); the statement is reflexivity. -/
theorem C03_repeat_access (F : Forest) (root i : Nat) : getTree F root i = getTree F root i := rfl

/-- No choice of alternatives is listed twice, whatever the sharing between subforests. -/
theorem C03_trees_pairwise_distinct (F : Forest) (root : Nat) : (trees F root).Nodup :=
  trees_nodup F root

/-- `forest[i]` and `forest[j]` are different trees for different indices in range. -/
theorem C03_index_injective (F : Forest) (hwf : F.wf = true) (root : Nat) (hr : root < F.length)
    (i j : Nat) (hi : i < solutions F root) (hj : j < solutions F root) (hne : i ≠ j) :
    treeAt F root i ≠ treeAt F root j :=
  fun h => hne (treeAt_inj F hwf root hr i j hi hj h)

/-- `get_first_tree()` equals `forest[0]`, for every forest (no well-formedness needed). -/
theorem C03_first_tree_is_index_zero (F : Forest) (root : Nat) :
    firstTree F root = treeAt F root 0 := by
  rw [firstTree, firstL_eq]; exact getD_map_zero _ root

/-- `forest[0], …, forest[len-1]` are pairwise different *parse trees* (not only different
choices), for every forest keyed like an SPPF (`Forest.keyed`, decidable, evaluated on every
forest the implementation returns). -/
theorem C03_parse_trees_pairwise_distinct (lhsOf : Nat → Nat) (F : Forest) (hwf : F.wf = true)
    (hk : F.keyed lhsOf = true) (root : Nat) : ((trees F root).map (CTree.concrete F)).Nodup :=
  concrete_trees_nodup lhsOf F hk root

theorem C03_index_gives_distinct_parse_trees (lhsOf : Nat → Nat) (F : Forest) (hwf : F.wf = true)
    (hk : F.keyed lhsOf = true) (root : Nat) (hr : root < F.length)
    (i j : Nat) (hi : i < solutions F root) (hj : j < solutions F root) (hne : i ≠ j) :
    (treeAt F root i).map (CTree.concrete F) ≠ (treeAt F root j).map (CTree.concrete F) := by
  intro h
  rw [treeAt_eq_get F hwf root hr i hi, treeAt_eq_get F hwf root hr j hj, ← List.getElem?_map,
    ← List.getElem?_map] at h
  exact hne ((List.getElem?_inj (by rw [List.length_map, ← solutions_eq]; exact hi)
    (concrete_trees_nodup lhsOf F hk root)).mp h)

def exF : Forest := [⟨[.term 1 0 1]⟩, ⟨[.nonterm 1 0 1 [0], .term 2 0 1]⟩]

/-- Non-vacuity: a two-node forest with an ambiguous root, one alternative with a child. -/
example : exF.wf = true ∧ solutions exF 1 = 2 ∧ (treeAt exF 1 1).isSome = true ∧
    (match getTree exF 1 2 with | .indexError => true | .tree _ => false) = true := by
  decide

/-- Non-vacuity of `Forest.keyed`: an ambiguous root over two different terminal nodes of the same span. -/
example : let F : Forest := [⟨[.term 1 0 1]⟩, ⟨[.term 2 0 1]⟩, ⟨[.nonterm 1 0 1 [0], .nonterm 2 0 1 [1]]⟩]
    F.wf = true ∧ F.keyed (fun _ => 7) = true ∧ solutions F 2 = 2 := by decide

end Pg
