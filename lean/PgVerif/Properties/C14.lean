import PgVerif.Model.Layout
import PgVerif.Model.LR
import PgVerif.Proofs.Lex
import PgVerif.Spec.Chart
/-!
# C14 — layout is invisible

The models consult the text only through `Input.len`, `skip` and `mlen`. For `ws`-based
layout the skipping function is modelled (`skipWs`, `Parser._skipws`) and has the properties
the other theorems assume of `skip`: never backwards, inside the text, idempotent, skipping
only whitespace and stopping at the first other character (`C14_ws_*`). Invariance of the
implementation under re-layout is the metamorphic leg.
-/
namespace Pg

/-- `countWs` is the index of the first character that is not whitespace; what the `C14_ws_*`
theorems say of it are core's facts about `List.findIdx`. -/
theorem countWs_eq_findIdx (isWs : Nat → Bool) :
    ∀ l : List Nat, countWs isWs l = l.findIdx (fun c => !isWs c) := by
  intro l
  induction l with
  | nil => rfl
  | cons c cs ih => rw [countWs, List.findIdx_cons, ih]; cases isWs c <;> rfl

theorem C14_ws_skip_ge (isWs : Nat → Bool) (chars : List Nat) (p : Nat) : p ≤ skipWs isWs chars p :=
  Nat.le_add_right _ _

theorem C14_ws_skip_le (isWs : Nat → Bool) (chars : List Nat) (p : Nat) (h : p ≤ chars.length) :
    skipWs isWs chars p ≤ chars.length := by
  have : countWs isWs (chars.drop p) ≤ (chars.drop p).length :=
    countWs_eq_findIdx isWs _ ▸ List.findIdx_le_length
  rw [List.length_drop] at this
  exact Nat.add_le_of_le_sub' h this

theorem countWs_drop (isWs : Nat → Bool) (l : List Nat) : countWs isWs (l.drop (countWs isWs l)) = 0 := by
  fun_induction countWs isWs l with
  | case1 => rfl
  | case2 c cs h ih => exact ih
  | case3 c cs h => exact if_neg h

theorem C14_ws_skip_idem (isWs : Nat → Bool) (chars : List Nat) (p : Nat) :
    skipWs isWs chars (skipWs isWs chars p) = skipWs isWs chars p := by
  show _ + countWs isWs (chars.drop (p + countWs isWs (chars.drop p))) = _
  rw [← List.drop_drop, countWs_drop]
  rfl

theorem C14_ws_skipped_is_ws (isWs : Nat → Bool) :
    ∀ (l : List Nat) (i : Nat), i < countWs isWs l → ∃ c, l[i]? = some c ∧ isWs c = true := by
  intro l i h
  rw [countWs_eq_findIdx] at h
  exact ⟨_, List.getElem?_eq_getElem (Nat.lt_of_lt_of_le h List.findIdx_le_length),
    (Bool.not_eq_false' _).mp (List.not_of_lt_findIdx h)⟩

theorem C14_ws_stops_at_non_ws (isWs : Nat → Bool) :
    ∀ (l : List Nat) (c : Nat), l[countWs isWs l]? = some c → isWs c = false := by
  intro l c h
  rw [countWs_eq_findIdx] at h
  exact (Bool.not_eq_true' _).mp (List.findIdx_of_getElem?_eq_some (p := fun c => !isWs c) h)

/-- `InputMono`, the hypothesis of the position theorems, holds of `ws` skipping. -/
theorem C14_ws_input_mono (isWs : Nat → Bool) (chars : List Nat) (mlen : Nat → Nat → Option Nat) :
    InputMono { len := chars.length, skip := skipWs isWs chars, mlen := mlen } :=
  ⟨fun p => C14_ws_skip_ge isWs chars p⟩

/-- `Input` has no other fields: what is computed from an input depends on these three only. -/
theorem C14_drivers_see_only_skip_and_match (g : Grammar) (T : Table) (cf : LRCfg) (fuel : Nat)
    (i1 i2 : Input) (hl : i1.len = i2.len) (hs : i1.skip = i2.skip) (hm : i1.mlen = i2.mlen) :
    parseLR g T i1 cf fuel = parseLR g T i2 cf fuel ∧ isSentence g i1 fuel = isSentence g i2 fuel := by
  have : i1 = i2 := by
    cases i1; cases i2; simp only [Input.mk.injEq]; exact ⟨hl, hs, hm⟩
  subst this
  exact ⟨rfl, rfl⟩

example : skipWs (fun c => c == 32) [97, 32, 32, 98] 1 = 3 := by decide

end Pg
