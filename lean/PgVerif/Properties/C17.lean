import PgVerif.Proofs.NDSound
import PgVerif.Properties.C02
import PgVerif.Proofs.GLRSound
/-!
# C17 — with consume_input off, results parse sentence prefixes

Whatever the LR driver model, a path of the nondeterministic automaton or the GLR driver
model returns derives a prefix of the input ending at a token boundary. GLR's completeness
over all prefixes is compared, on the explored scope, with the reference SPPF proved exact here.
-/
namespace Pg

theorem C17_lr_prefix_sound (g : Grammar) (T : Table) (inp : Input) (hw : T.wf g = true)
    (lexDis : Bool) (fuel : Nat) (t : Tree) (e p : Nat)
    (h : parseLR g T inp { consumeInput := false, lexDis := lexDis } fuel = .ok t e p) :
    IsPrefixParseOf g inp t := by
  obtain ⟨h1, _, _⟩ := run_sound hw _ fuel Config.init (Inv.init _) t e p h
  exact ⟨e, h1⟩

theorem C17_prefix_oracle_correct (g : Grammar) (inp : Input) (hin : InputOK inp) (fuel : Nat)
    (b : Bool) (h : isPrefixSentence g inp fuel = some b) :
    b = true ↔ ∃ t, IsPrefixParseOf g inp t := by
  obtain ⟨hcl, hb⟩ := Option.ite_none_right_eq_some.mp h
  cases hb
  have hx := parseEnds_iff (chart_exact hin hcl)
  simp only [Bool.not_eq_true', List.isEmpty_eq_false_iff_exists_mem]
  exact (exists_congr hx).trans exists_comm

theorem C17_path_prefix_sound (g : Grammar) (T : Table) (inp : Input) (hw : T.wf g = true)
    (c : Config) (h : Reach g T inp c) (t : Tree) (e p : Nat)
    (hs : NStep g T inp c (.done (.ok t e p))) : IsPrefixParseOf g inp t := by
  obtain ⟨e', h1, _⟩ := nd_sound hw c h t e p hs
  exact ⟨e', h1⟩

/-- The reference SPPF of all sentence prefixes (`consume_input=False`) is exact. -/
theorem C17_reference_prefix_sppf_exact (g : Grammar) (inp : Input) (hin : InputOK inp) (fuel : Nat)
    (alts : List PAlt) (h : sppfAlts g inp fuel false = some alts) (a : PAlt) :
    a ∈ alts ↔ Useful g inp false (a.A, a.i, a.j) ∧ PackedAlt g inp a :=
  C02_reference_sppf_exact hin fuel false alts h a

/-- Whenever the GLR driver model answers with a forest, a prefix of the input ending at a token
boundary derives from the start symbol. -/
theorem C17_glr_model_prefix_sound (g : Grammar) (T : Table) (inp : Input) (hw : T.wf g = true)
    (hidem : ∀ p, inp.skip (inp.skip p) = inp.skip p) (consume lexDis : Bool) (fuel : Nat) (sF : GLR.GState)
    (h : GLR.parseGLR g T inp consume lexDis fuel = .forest sF) : ∃ t, IsPrefixParseOf g inp t :=
  (GLR.parseGLR_sound hw hidem consume lexDis fuel sF h).1

/-- With `consume_input` off every tree of the model's packed forest derives a prefix of the input
ending at a token boundary. -/
theorem C17_glr_model_forest_prefix_sound (g : Grammar) (T : Table) (inp : Input) (hw : T.wf g = true)
    (hidem : ∀ p, inp.skip (inp.skip p) = inp.skip p) (consume lexDis : Bool) (fuel : Nat) (sF : GLR.GState)
    (h : GLR.parseGLR g T inp consume lexDis fuel = .forest sF)
    (a : Nat) (ha : a ∈ sF.accepted) (l : Nat) (hl : l ∈ sF.parents a) (t : Tree) (ht : GLR.TreeOf sF l t) :
    IsPrefixParseOf g inp t :=
  (GLR.parseGLR_forest_sound hw hidem consume lexDis fuel sF h a ha l hl t ht).1

/-- The executable form used on implementation trees: a tree that the driver finds in the packed
forest of the model's run with `consume_input` off derives a prefix of the input. -/
theorem C17_tree_found_in_glr_model_forest_is_prefix_parse (g : Grammar) (T : Table) (inp : Input)
    (hw : T.wf g = true) (hidem : ∀ p, inp.skip (inp.skip p) = inp.skip p) (consume lexDis : Bool) (fuel : Nat)
    (sF : GLR.GState) (h : GLR.parseGLR g T inp consume lexDis fuel = .forest sF) (t : Tree)
    (ht : GLR.forestHasTree sF t = true) : IsPrefixParseOf g inp t :=
  (GLR.forestHasTree_parse hw hidem consume lexDis fuel sF h t ht).1

end Pg
