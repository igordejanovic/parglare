import PgVerif.Proofs.NDSound
import PgVerif.Proofs.Chart
import PgVerif.Proofs.GLRSound
import PgVerif.Model.Decode
/-!
# C01 — GLR accepts exactly the language and returns only valid derivations

For every grammar, table, input and recognizer behaviour: the chart oracle for "is a sentence" and
the tree checker applied to implementation trees are correct; every path a Tomita-style driver can
follow over a well-formed table (any matching token as lookahead, any action of the cell) assembles
only parses of the input; the GLR driver model of `Model/GLR.lean`, tied to `glr.py` by exact
correspondence of its packed forests, answers with a forest only for sentences and packs only
parse trees. What the implementation's forests contain is judged by the verified checkers on its
outputs; see DESIGN.md for what stays bounded.
-/
namespace Pg

theorem C01_sentence_oracle_correct (g : Grammar) (inp : Input) (hin : InputOK inp) (fuel : Nat)
    (b : Bool) (h : isSentence g inp fuel = some b) : b = true ↔ Sentence g inp :=
  isSentence_correct hin fuel b h

theorem C01_tree_checker_correct (g : Grammar) (inp : Input) (t : Tree) :
    (∃ e, t.derivesB g inp (.nt g.start) 0 e = true ∧ inp.skip e = inp.len) ↔ IsParseOf g inp t :=
  exists_congr fun e => and_congr_left' (derivesB_iff g inp _ 0 e t)

theorem C01_path_sound (g : Grammar) (T : Table) (inp : Input) (hw : T.wf g = true)
    (c : Config) (h : Reach g T inp c) (t : Tree) (e p : Nat)
    (hs : NStep g T inp c (.done (.ok t e p))) : IsParseOf g inp t :=
  nd_sound hw c h t e p hs

theorem C01_accept_sound (g : Grammar) (T : Table) (inp : Input) (hw : T.wf g = true)
    (c : Config) (h : Reach g T inp c) (t : Tree) (e p : Nat)
    (hs : NStep g T inp c (.done (.ok t e p))) : Sentence g inp :=
  ⟨t, nd_sound hw c h t e p hs⟩

/-- **Soundness of the GLR driver model**: for every grammar, well-formed table, input and
recognizer behaviour (layout skipping idempotent), every lexical-disambiguation setting and every
fuel: when the model of `GLRParser.parse` answers with a forest, the input is a sentence. -/
theorem C01_glr_model_sound (g : Grammar) (T : Table) (inp : Input) (hw : T.wf g = true)
    (hidem : ∀ p, inp.skip (inp.skip p) = inp.skip p) (lexDis : Bool) (fuel : Nat) (sF : GLR.GState)
    (h : GLR.parseGLR g T inp true lexDis fuel = .forest sF) : Sentence g inp :=
  (GLR.parseGLR_sound hw hidem true lexDis fuel sF h).2 rfl

/-- **Soundness of the packed forest of the GLR driver model**: when the model answers with a forest,
every tree obtained from it — one possibility chosen per link, starting at any link of an accepted
head (the links `Forest.__init__` merges into the root) — is a parse tree of the input. -/
theorem C01_glr_model_forest_sound (g : Grammar) (T : Table) (inp : Input) (hw : T.wf g = true)
    (hidem : ∀ p, inp.skip (inp.skip p) = inp.skip p) (lexDis : Bool) (fuel : Nat) (sF : GLR.GState)
    (h : GLR.parseGLR g T inp true lexDis fuel = .forest sF)
    (a : Nat) (ha : a ∈ sF.accepted) (l : Nat) (hl : l ∈ sF.parents a) (t : Tree) (ht : GLR.TreeOf sF l t) :
    IsParseOf g inp t :=
  (GLR.parseGLR_forest_sound hw hidem true lexDis fuel sF h a ha l hl t ht).2 rfl

/-- The executable form used on implementation trees: a tree that the driver finds in the packed
forest of the model's accepting run (`forestHasTree`, evaluated on every tree taken from the
implementation's forest) is a parse tree of the input. -/
theorem C01_tree_found_in_glr_model_forest_is_parse (g : Grammar) (T : Table) (inp : Input) (hw : T.wf g = true)
    (hidem : ∀ p, inp.skip (inp.skip p) = inp.skip p) (lexDis : Bool) (fuel : Nat) (sF : GLR.GState)
    (h : GLR.parseGLR g T inp true lexDis fuel = .forest sF) (t : Tree) (ht : GLR.forestHasTree sF t = true) :
    IsParseOf g inp t :=
  (GLR.forestHasTree_parse hw hidem true lexDis fuel sF h t ht).2 rfl

/-- The same on the data the driver decodes: both hypotheses are the Boolean checks the driver
evaluates for every table and input of a run (`wf`, `skipidem`). -/
theorem C01_glr_model_sound_on_decoded_data (g : Grammar) (states : Array StateData) (terms : Array (Nat × Bool))
    (len : Nat) (skips : Array Nat) (ms : List (Nat × Nat × Nat))
    (hw : (Table.ofStates states terms).wf g = true)
    (hid : skipIdemB (Input.ofTables len skips ms) = true) (lexDis : Bool) (fuel : Nat) (sF : GLR.GState)
    (h : GLR.parseGLR g (Table.ofStates states terms) (Input.ofTables len skips ms) true lexDis fuel = .forest sF) :
    Sentence g (Input.ofTables len skips ms) :=
  C01_glr_model_sound g _ _ hw (Input.ofTables_idem len skips ms hid) lexDis fuel sF h

/-! Non-vacuity: on the table of `S → a` and the input `a` the hypotheses hold and the model
answers with a forest. -/
def c01G : Grammar := { prods := [⟨0, [.nt 1, .t 0]⟩, ⟨1, [.t 1]⟩], start := 1 }
def c01T : Table where
  n := 3
  sym := fun s => if s = 1 then .nt 1 else if s = 2 then .t 1 else .nt 0
  cells := fun s => if s = 0 then [(1, [.shift 2])] else if s = 1 then [(0, [.accept])]
    else if s = 2 then [(0, [.reduce 1])] else []
  finish := fun _ => [false]
  gotoL := fun s => if s = 0 then [(1, 1)] else []
  prior := fun _ => 10
  prefer := fun _ => false
def c01I : Input where
  len := 1
  skip := fun p => p
  mlen := fun t p => if t = 1 ∧ p = 0 then some 1 else none

example : c01T.wf c01G = true ∧ (∀ p, c01I.skip (c01I.skip p) = c01I.skip p) := ⟨by decide, fun _ => rfl⟩
example : (match GLR.parseGLR c01G c01T c01I true false 20 with | .forest _ => true | _ => false) = true := by
  decide +kernel
/-- … and the root link of that forest packs the production `S → a` over the link of the token. -/
example : (match GLR.parseGLR c01G c01T c01I true false 20 with
    | .forest s => s.accepted.any (fun a => (s.parents a).any (fun l =>
        (s.link l).poss.any (fun p => match p with
          | .nonterm 1 [k] => (s.link k).poss.any (fun q => match q with | .term 1 0 1 => true | _ => false)
          | _ => false)))
    | _ => false) = true := by
  decide +kernel

end Pg
