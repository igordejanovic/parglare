import PgVerif.Proofs.Pos
import PgVerif.Proofs.GLRSound
/-!
# C08 — parse trees are positionally faithful and lossless

For the LR driver model: spans are ordered pairs, children lie inside their parent, siblings
are in input order and do not overlap (`Tree.posOK`); the leaves are the token edges read
left to right, so leaves plus the layout between them tile the input (also for every tree of
the GLR model's forest). The same two checkers run on every implementation tree.
-/
namespace Pg

theorem C08_lr_posOK (g : Grammar) (T : Table) (inp : Input) (hm : InputMono inp) (cf : LRCfg)
    (fuel : Nat) (t : Tree) (e p : Nat) (h : parseLR g T inp cf fuel = .ok t e p) :
    t.posOK = true ∧ t.stop ≤ e :=
  run_pos hm cf fuel Config.init PInv.init t e p h

theorem C08_lr_in_bounds (g : Grammar) (T : Table) (inp : Input) (hw : T.wf g = true)
    (hm : InputMono inp) (lexDis : Bool) (fuel : Nat) (t : Tree) (e p : Nat)
    (h : parseLR g T inp { consumeInput := true, lexDis := lexDis } fuel = .ok t e p) :
    t.stop ≤ inp.len := by
  obtain ⟨_, h2, h3⟩ := run_sound hw _ fuel Config.init (Inv.init _) t e p h
  -- `t.stop ≤ e ≤ skip e = p = len`
  exact Nat.le_trans (C08_lr_posOK g T inp hm _ fuel t e p h).2
    (Nat.le_trans (hm.skip_ge e) (Nat.le_of_eq (h2 ▸ h3 rfl)))

/-- Lossless: the leaves of the accepted tree, read left to right, are token
edges chained through layout skipping from position 0 to the raw end, after
which only layout remains. -/
theorem C08_lr_lossless (g : Grammar) (T : Table) (inp : Input) (hw : T.wf g = true)
    (lexDis : Bool) (fuel : Nat) (t : Tree) (e p : Nat)
    (h : parseLR g T inp { consumeInput := true, lexDis := lexDis } fuel = .ok t e p) :
    chain inp 0 t.yield = some e ∧ inp.skip e = inp.len := by
  obtain ⟨h1, h2, h3⟩ := run_sound hw _ fuel Config.init (Inv.init _) t e p h
  exact ⟨(derives_iff_checks.mp h1).2.2, by rw [← h2]; exact h3 rfl⟩

/-- The same for every tree of the packed forest of the GLR driver model. (Nothing is claimed about
the spans recorded in interior nodes of GLR trees: F-POS-3.) -/
theorem C08_glr_model_lossless (g : Grammar) (T : Table) (inp : Input) (hw : T.wf g = true)
    (hidem : ∀ p, inp.skip (inp.skip p) = inp.skip p) (lexDis : Bool) (fuel : Nat) (sF : GLR.GState)
    (h : GLR.parseGLR g T inp true lexDis fuel = .forest sF)
    (a : Nat) (ha : a ∈ sF.accepted) (l : Nat) (hl : l ∈ sF.parents a) (t : Tree) (ht : GLR.TreeOf sF l t) :
    ∃ e, chain inp 0 t.yield = some e ∧ inp.skip e = inp.len := by
  obtain ⟨e, h1, h2⟩ := (GLR.parseGLR_forest_sound hw hidem true lexDis fuel sF h a ha l hl t ht).2 rfl
  exact ⟨e, (derives_iff_checks.mp h1).2.2, h2⟩

/-- Non-vacuity: a well positioned tree with an empty first child. -/
example : (Tree.node 1 0 3 [.node 2 0 0 [], .leaf 1 1 3]).posOK = true := by decide
example : (Tree.node 1 0 3 [.leaf 1 0 2, .leaf 1 1 3]).posOK = false := by decide

end Pg
