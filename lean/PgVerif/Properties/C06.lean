import PgVerif.Model.TableGen
import PgVerif.Spec.Prec
/-!
# C06 — priorities and associativity give the conventional operator-precedence parse

`C06_cell_decision_*`: the resolution code of `create_table` (model
`resolveCell`), applied to a cell holding the shift of the next operator and the
reduction of an operator production that declares a priority and a left or right
associativity, leaves exactly one action — REDUCE when the production's priority
is higher or equal with left associativity, SHIFT when lower or equal with right
associativity — independently of `prefer_shifts` / `prefer_shifts_over_empty`.
That a shift-reduce run with these decisions builds the conventional tree
(`Spec/Prec.lean`) is compared, per expression, against precedence climbing on
the explored operator tables.
-/
namespace Pg

theorem C06_cell_decision_reduce (g : GGrammar) (o : GenOpts) (s p shPrior : Nat)
    (h : (g.prod p).prior > shPrior ∨ ((g.prod p).prior = shPrior ∧ (g.prod p).assoc = 1)) :
    resolveCell g o [Action.shift s] p shPrior = [Action.reduce p] := by
  have hd : decideShift g o [Action.shift s] p shPrior = ([], true) := by
    simp only [decideShift, List.find?_singleton, isShiftLike, ↓reduceIte, beq_iff_eq,
      bne_self_eq_false, Bool.false_eq_true, not_false_eq_true, List.filter_cons_of_neg, List.filter_nil]
    rcases h with h | ⟨h1, h2⟩
    · rw [if_neg (Nat.ne_of_gt h), if_pos h]
    · rw [if_pos h1, if_pos h2]
  rw [resolveCell, hd]; rfl

theorem C06_cell_decision_shift (g : GGrammar) (o : GenOpts) (s p shPrior : Nat)
    (h : (g.prod p).prior < shPrior ∨ ((g.prod p).prior = shPrior ∧ (g.prod p).assoc = 2)) :
    resolveCell g o [Action.shift s] p shPrior = [Action.shift s] := by
  have hd : decideShift g o [Action.shift s] p shPrior = ([Action.shift s], false) := by
    simp only [decideShift, List.find?_singleton, isShiftLike, ↓reduceIte, beq_iff_eq]
    rcases h with h | ⟨h1, h2⟩
    · rw [if_neg (Nat.ne_of_lt h), if_neg (Nat.lt_asymm h)]
    · rw [if_pos h1, h2, if_neg (by decide), if_pos rfl]
  rw [resolveCell, hd]; rfl

/-- No conflict remains when the operator production declares an associativity:
the resolved cell is a singleton whatever the strategies say. -/
theorem C06_no_conflict_remains (g : GGrammar) (o : GenOpts) (s p shPrior : Nat)
    (ha : (g.prod p).assoc = 1 ∨ (g.prod p).assoc = 2) :
    (resolveCell g o [Action.shift s] p shPrior).length = 1 := by
  rcases Nat.lt_trichotomy (g.prod p).prior shPrior with h | h | h
  · rw [C06_cell_decision_shift g o s p shPrior (Or.inl h)]; rfl
  · rcases ha with ha | ha
    · rw [C06_cell_decision_reduce g o s p shPrior (Or.inr ⟨h, ha⟩)]; rfl
    · rw [C06_cell_decision_shift g o s p shPrior (Or.inr ⟨h, ha⟩)]; rfl
  · rw [C06_cell_decision_reduce g o s p shPrior (Or.inl h)]; rfl

/-- Priorities and associativities are only consulted on an occupied cell: a
reduction entering an empty cell is added unchanged (so a conflict-free table is
the same with and without them). -/
theorem C06_static_noop_on_free_cell (g : GGrammar) (o : GenOpts) (p shPrior : Nat) :
    resolveCell g o [] p shPrior = [Action.reduce p] := rfl

/-- Non-vacuity of the oracle: `1 + 2 * 3` with `*` tighter, and `1 - 2 - 3` left
associative. -/
example : climb ⟨fun k => k, fun _ => true⟩ [.num, .op 1, .num, .op 2, .num] =
    some (.bin 1 .num (.bin 2 .num .num)) := by decide
example : climb ⟨fun _ => 1, fun _ => true⟩ [.num, .op 1, .num, .op 1, .num] =
    some (.bin 1 (.bin 1 .num .num) .num) := by decide
example : (ETree.bin 1 (.bin 1 .num .num) .num).conventional ⟨fun _ => 1, fun _ => true⟩ = true := by decide

end Pg
