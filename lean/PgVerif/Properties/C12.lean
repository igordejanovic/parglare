import PgVerif.Model.Cache
/-!
# C12 — the table cache is transparent

Loading a dumped table gives the table back; and over every history of edits, touches,
crashes (truncated table file), removals and constructions with one set of table-affecting
options, every construction ends up with the table of the *current* grammar text. (With
differing options the file is reused as is: recorded finding F-CACHE-1.) The clock is strictly
increasing in the model; mtime granularity of a real file system is outside it.
-/
namespace Pg

theorem loadAction_dumpAction (a : Action) : loadAction (dumpAction a) = some a := by
  cases a <;> rfl

theorem mapM_map_inv {α β : Type} (f : α → β) (g : β → Option α) (h : ∀ a, g (f a) = some a) :
    ∀ l : List α, (l.map f).mapM g = some l := by
  intro l
  induction l with
  | nil => rfl
  | cons a as ih =>
    simp only [List.map_cons, List.mapM_cons, h a, ih]
    rfl

theorem mapM_load_dump (as : List Action) : (as.map dumpAction).mapM loadAction = some as :=
  mapM_map_inv dumpAction loadAction loadAction_dumpAction as

theorem loadCell_dumpCell (c : Nat × List Action) :
    loadCell (c.1, c.2.map dumpAction) = some c := by
  simp only [loadCell, mapM_load_dump, Option.map_some]

theorem loadCells_dump (cells : List (Nat × List Action)) :
    (cells.map (fun c => (c.1, c.2.map dumpAction))).mapM loadCell = some cells :=
  mapM_map_inv (fun c => (c.1, c.2.map dumpAction)) loadCell loadCell_dumpCell cells

theorem loadState_dumpState (i : Nat) (s : PState) : loadState (dumpState i s) = some s := by
  simp only [loadState, dumpState, loadCells_dump, Option.map_some]

/-- `table_from_serializable` on what `_dump_state` / `_dump_actions` wrote gives the table back:
states in order, their actions, gotos and finish flags. -/
theorem C12_roundtrip (t : List PState) : loadTable (dumpTable t) = some t := by
  unfold loadTable dumpTable
  suffices h : ∀ (i : Nat), (enumStates i t).mapM loadState = some t from h 0
  induction t with
  | nil => intro i; rfl
  | cons s rest ih =>
    intro i
    simp only [enumStates, List.mapM_cons, loadState_dumpState, ih]
    rfl

/-- Re-saving a table loaded from a dump writes the same serialisable value: by the round trip
the loaded table is the dumped one. -/
theorem C12_resave_stable (t t' : List PState) (h : loadTable (dumpTable t) = some t') :
    dumpTable t' = dumpTable t := by
  rw [C12_roundtrip] at h
  simp only [Option.some.injEq] at h
  rw [h]

/-- Invariant: clock dominates every time stamp, and a readable table file that
is not older than any grammar file holds the table of the current version under
the common options. -/
structure CacheInv (o : Opts) (st : Store) : Prop where
  gle : ∀ m ∈ st.gmtimes, m ≤ st.clock
  ple : ∀ c tm, st.pgc = some (c, tm) → tm ≤ st.clock
  cur : ∀ v o' tm, st.pgc = some (.table v o', tm) → o' = o ∧
          ((∀ m ∈ st.gmtimes, m ≤ tm) → v = st.version)

namespace CacheInv
variable {o : Opts} {st : Store} (hinv : CacheInv o st)
include hinv

theorem fresh : CacheInv o { st with clock := st.clock + 1, pgc := some (.table st.version o, st.clock + 1) } where
  gle m hm := Nat.le_succ_of_le (hinv.gle m hm)
  ple c tm h := by cases h; exact Nat.le_refl _
  cur v o' tm h := by cases h; exact ⟨rfl, fun _ => rfl⟩

/-- The table file is then older than file `f`, so nothing is claimed of the version it holds:
the version may change. -/
theorem stamp {f : Nat} (hf : f < st.gmtimes.length) (ver : Nat) :
    CacheInv o { st with clock := st.clock + 1, version := ver,
                         gmtimes := setAt st.gmtimes f (st.clock + 1) } where
  gle m hm := by
    rcases List.mem_or_eq_of_mem_set hm with h | h
    · exact Nat.le_succ_of_le (hinv.gle m h)
    · exact Nat.le_of_eq h
  ple c tm h := Nat.le_succ_of_le (hinv.ple c tm h)
  cur v o' tm h := ⟨(hinv.cur v o' tm h).1, fun hall =>
    absurd (Nat.le_trans (hall _ (List.mem_set hf _)) (hinv.ple _ tm h)) (Nat.not_succ_le_self _)⟩

/-- The table file is removed or becomes unreadable. -/
theorem forget (pgc : Option (PgcContent × Nat))
    (h : ∀ c tm, pgc = some (c, tm) → c = .garbage ∧ ∃ c0, st.pgc = some (c0, tm)) :
    CacheInv o { st with pgc := pgc } where
  gle := hinv.gle
  ple c tm hc := let ⟨_, c0, h0⟩ := h c tm hc; hinv.ple c0 tm h0
  cur _ _ tm hc := nomatch (h _ tm hc).1

end CacheInv

/-- A table file that is reused holds the current table by the invariant; otherwise a fresh one
is written. -/
theorem construct_inv (o : Opts) (st : Store) (hinv : CacheInv o st) :
    CacheInv o (construct st o).1 ∧ (construct st o).2 = (st.version, o) ∧
      (construct st o).1.gmtimes = st.gmtimes := by
  unfold construct
  cases hp : st.pgc with
  | none => exact ⟨hinv.fresh, rfl, rfl⟩
  | some p =>
    obtain ⟨content, tm⟩ := p
    dsimp only
    by_cases hany : st.gmtimes.any (fun m => decide (m > tm)) = true
    · rw [if_pos hany]; exact ⟨hinv.fresh, rfl, rfl⟩
    · rw [if_neg hany]
      cases content with
      | garbage => exact ⟨hinv.fresh, rfl, rfl⟩
      | table v o' =>
        have hall : ∀ m ∈ st.gmtimes, m ≤ tm := fun m hm =>
          Nat.le_of_not_lt fun hlt => hany (List.any_eq_true.2 ⟨m, hm, decide_eq_true hlt⟩)
        obtain ⟨rfl, hv⟩ := hinv.cur v o' tm hp
        exact ⟨hinv, by rw [hv hall], rfl⟩

/-- Edits and touches name an existing grammar file. -/
def OpWF (n : Nat) : Op → Prop
  | .edit f => f < n
  | .touch f => f < n
  | _ => True

theorem applyOp_inv (o : Opts) (st : Store) (hinv : CacheInv o st) (op : Op)
    (hop : ∀ o', op = .construct o' → o' = o) (hwf : OpWF st.gmtimes.length op) :
    CacheInv o (applyOp st op).1 ∧ (applyOp st op).1.gmtimes.length = st.gmtimes.length ∧
      ∀ r, (applyOp st op).2 = some r → r = (st.version, o) := by
  have hnone (r : Nat × Opts) (h : none = some r) : r = (st.version, o) := by cases h
  cases op with
  | edit f => exact ⟨hinv.stamp hwf _, List.length_set, hnone⟩
  | touch f => exact ⟨hinv.stamp hwf _, List.length_set, hnone⟩
  | construct o' =>
    cases hop o' rfl
    have ⟨h1, h2, h3⟩ := construct_inv o st hinv
    exact ⟨h1, congrArg _ h3, fun r h => Option.some.inj h ▸ h2⟩
  | crash =>
    refine ⟨hinv.forget _ fun c tm h => ?_, rfl, hnone⟩
    obtain ⟨p, hp, hc⟩ := Option.map_eq_some_iff.1 h
    cases hc
    exact ⟨rfl, p.1, hp⟩
  | removePgc =>
    exact ⟨hinv.forget none (fun _ _ h => by cases h), rfl, hnone⟩

/-- Every construction of the history ends up with the table of the grammar text
current at that moment, under the common options. -/
def AllTransparent (o : Opts) : Store → List Op → Prop
  | _, [] => True
  | st, op :: rest =>
    (∀ r, (applyOp st op).2 = some r → r = (st.version, o)) ∧ AllTransparent o (applyOp st op).1 rest

/-- Over any history that starts in a state satisfying `CacheInv o`, names existing grammar files
and constructs with the options `o` only, each `create_load_table` returns the table of the
grammar text current at that moment, whatever state the table file is in. -/
theorem C12_transparent_same_options (o : Opts) (n : Nat) :
    ∀ (ops : List Op) (st : Store), CacheInv o st → st.gmtimes.length = n →
      (∀ op ∈ ops, ∀ o', op = .construct o' → o' = o) → (∀ op ∈ ops, OpWF n op) →
      AllTransparent o st ops := by
  intro ops
  induction ops with
  | nil => intro st _ _ _ _; trivial
  | cons op rest ih =>
    intro st hinv hn hops hwf
    have ⟨hop, hops'⟩ := List.forall_mem_cons.1 hops
    have ⟨hw, hwf'⟩ := List.forall_mem_cons.1 hwf
    obtain ⟨h1, h2, h3⟩ := applyOp_inv o st hinv op hop (hn ▸ hw)
    exact ⟨h3, ih _ h1 (h2.trans hn) hops' hwf'⟩

/-- The empty directory state satisfies the invariant (non-vacuity of the premise). -/
theorem C12_initial_inv (o : Opts) (n : Nat) : CacheInv o ⟨0, 0, List.replicate n 0, none⟩ :=
  ⟨fun m hm => Nat.le_of_eq (List.eq_of_mem_replicate hm), fun _ _ h => (by cases h),
    fun _ _ _ h => (by cases h)⟩

/-- Witness of the excluded region (finding F-CACHE-1): a construction with other
options reuses the table computed under the first options. -/
example :
    let o1 : Opts := ⟨true, true, true, true⟩
    let o2 : Opts := ⟨true, false, false, false⟩
    let st0 : Store := ⟨0, 0, [0], none⟩
    (construct (construct st0 o1).1 o2).2 = (0, o1) := by decide

end Pg
