import PgVerif.Proofs.SPPF
import PgVerif.Proofs.GLRSound
/-!
# C02 — the forest contains every derivation

The reference "complete SPPF" is computed from the chart. The chart holds exactly the derivable
spans (sound; complete once saturated), and the reference is exact: whenever it returns a list,
that list holds exactly the packed alternatives (span, production, split into derivable pieces) of
the spans that occur top-down in some parse of the input, for every grammar (ambiguous, nullable,
cyclic) and input. Comparing the implementation forest's packed alternatives with this reference is
the bounded part; see DESIGN.md. Of the GLR driver model the sound half is a theorem: its packed
forest holds only parse trees; that it holds *every* one is false of the pinned reducer (F-GLR-1/2)
and is what the comparison with the exact reference decides.
-/
namespace Pg

variable {g : Grammar} {inp : Input}

theorem C02_chart_sound (fuel : Nat) :
    ∀ f ∈ (chart g inp fuel).1, ∃ t, Derives g inp (.nt f.1) f.2.1 f.2.2 t :=
  chart_sound fuel

theorem C02_chart_complete (hin : InputOK inp) (fuel : Nat) (hcl : (chart g inp fuel).2 = true)
    {Xs : List Sym} {i j : Nat} {ts : List Tree} (h : DerivesSeq g inp Xs i j ts) (hi : i ≤ inp.len) :
    j ∈ seqEnds inp (chart g inp fuel).1 Xs i :=
  closed_complete (chart_closed hcl) hin h hi

theorem C02_split_pieces_derivable (fuel : Nat) :
    ∀ (Xs : List Sym) (i j : Nat) (ks : List Nat), ks ∈ splits inp (chart g inp fuel).1 Xs i j →
      ∃ ts, DerivesSeq g inp Xs i j ts :=
  fun _ _ _ _ h => (splits_sound (chart_sound fuel) h).derivesSeq

theorem C02_reference_sppf_exact (hin : InputOK inp) (fuel : Nat) (consume : Bool) (alts : List PAlt)
    (h : sppfAlts g inp fuel consume = some alts) (a : PAlt) :
    a ∈ alts ↔ Useful g inp consume (a.A, a.i, a.j) ∧ PackedAlt g inp a := by
  simp only [sppfAlts, Bool.not_eq_true', Option.ite_none_left_eq_some, Bool.not_eq_false,
    Option.some.injEq] at h
  obtain ⟨hcl, hucl, rfl⟩ := h
  have hx := chart_exact hin hcl
  refine sppf_exact hx hin (fun j t ht hc => (mem_sppfRoots hx consume _).mpr ⟨j, ⟨⟨t, ht⟩, hc⟩, rfl⟩)
    (usefulIter_sound hx.sound consume _ [] _ (fun _ h => nomatch h) fun f hf => ?_) hucl a
  obtain ⟨j, ⟨⟨t, ht⟩, hc⟩, rfl⟩ := (mem_sppfRoots hx consume f).mp hf
  exact .root j t ht hc

/-- The packed forest of the GLR driver model holds only parse trees of the input: every choice of
one possibility per link below a root link. -/
theorem C02_glr_model_forest_only_parses (T : Table) (hw : T.wf g = true)
    (hidem : ∀ p, inp.skip (inp.skip p) = inp.skip p) (lexDis : Bool) (fuel : Nat) (sF : GLR.GState)
    (h : GLR.parseGLR g T inp true lexDis fuel = .forest sF)
    (a : Nat) (ha : a ∈ sF.accepted) (l : Nat) (hl : l ∈ sF.parents a) (t : Tree) (ht : GLR.TreeOf sF l t) :
    IsParseOf g inp t :=
  (GLR.parseGLR_forest_sound hw hidem true lexDis fuel sF h a ha l hl t ht).2 rfl

/-- The packed alternatives the driver emits for the model's forest (the lists compared with the
implementation's forest and with the reference SPPF) each apply a production of the grammar to as
many children as its right-hand side has. That they are possibilities of links of the final state
is `GLR.reachableAlts_from_links`. -/
theorem C02_glr_model_emitted_alternatives_wellformed (T : Table) (hw : T.wf g = true)
    (hidem : ∀ p, inp.skip (inp.skip p) = inp.skip p) (consume lexDis : Bool) (fuel fuel' : Nat) (sF : GLR.GState)
    (h : GLR.parseGLR g T inp consume lexDis fuel = .forest sF) :
    ∀ a ∈ GLR.reachableAlts T sF fuel', ∃ pr, g.prod? a.2.1 = some pr ∧ a.2.2.length = pr.rhs.length :=
  GLR.reachableAlts_wellformed sF (GLR.parseGLR_inv hw hidem consume lexDis fuel sF h).1 fuel'

end Pg
