import PgVerif.Generated.Source
import PgVerif.Properties.C09
/-!
# C13 — repetition, optional, separator, group and greedy syntax

The results of the helper rules are proved in C09 (`x+` of every length is restated here).
Naming: the helper rule of `base`/multiplicity/separator is named `base_suffix[_separator]`
(`make_multiplicity_fqn`), with the suffixes regenerated from the source (`Src.multSuffix`):
they are pairwise different, and for a fixed base the name determines the suffix and the
separator when neither contains an underscore (otherwise two uses may share one helper — the
excluded region with witnesses in DESIGN.md). That the sugared grammar and its documented
plain-BNF expansion accept the same language and return the same results is the differential
leg.
-/
namespace Pg

def sepPart : Option (List Char) → List Char
  | some s => '_' :: s
  | none => []

/-- `make_multiplicity_fqn` on code-point lists: `base_suffix[_separator]`. -/
def helperName (base suffix : List Char) (sep : Option (List Char)) : List Char :=
  base ++ ['_'] ++ suffix ++ sepPart sep

/-- The suffixes of the three multiplicities are pairwise different (checked on
the values regenerated from the source). -/
theorem C13_suffixes_distinct : (Src.multSuffix.map (·.2)).Nodup := by decide

theorem C13_multiplicities_distinct : (Src.multSuffix.map (·.1)).Nodup := by decide

/-- The suffix is what stands before the first underscore of `suffix ++ sepPart sep`. -/
theorem takeWhile_suffix_sep (s : List Char) (p : Option (List Char)) (h : '_' ∉ s) :
    (s ++ sepPart p).takeWhile (· != '_') = s := by
  have hs : ∀ c ∈ s, (c != '_') = true := fun c hc => bne_iff_ne.2 fun e => h (e ▸ hc)
  rw [List.takeWhile_append_of_pos hs]
  cases p <;> exact List.append_nil s

/-- The separator is what follows the underscore of `sepPart sep`. -/
theorem tail?_sepPart (p : Option (List Char)) : (sepPart p).tail? = p := by
  cases p <;> rfl

/-- For a fixed base, the helper name determines the suffix and the separator,
provided neither contains an underscore. -/
theorem C13_helper_name_injective (base s1 s2 : List Char) (p1 p2 : Option (List Char))
    (h1 : '_' ∉ s1) (h2 : '_' ∉ s2)
    (h : helperName base s1 p1 = helperName base s2 p2) : s1 = s2 ∧ p1 = p2 := by
  unfold helperName at h
  simp only [List.append_assoc] at h
  have h' := List.append_cancel_left (List.append_cancel_left h)
  have hs : s1 = s2 := by
    rw [← takeWhile_suffix_sep s1 p1 h1, ← takeWhile_suffix_sep s2 p2 h2, h']
  subst hs
  exact ⟨rfl, by rw [← tail?_sepPart p1, List.append_cancel_left h', tail?_sepPart]⟩

theorem C13_plus_result (env : ActEnv) (pRec pBase : Nat) (h : PlusEnv env pRec pBase) (x : Tree)
    (rest : List Tree) (hne : ∀ y ∈ rest, y.eval env ≠ Val.none) :
    (chainPlus pRec pBase (x :: rest)).eval env = .list (Tree.evalL env (x :: rest)) :=
  C09_collect_plus env pRec pBase h x rest hne

end Pg
