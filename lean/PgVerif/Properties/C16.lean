import PgVerif.Model.TableGen
/-!
# C16 — tables are deterministic across processes and hash seeds

The model of table construction computes with canonical sets and lists; the only
place where the implementation's result passes through a hash-ordered container
on its way to the serialised table is the per-state action dict, whose insertion
order depends on set iteration and which `sort_state_actions` sorts. Proved here:
insertion into a sorted list keeps it sorted, the sort is a permutation of its
input, and — for any strict total order on the keys, as `act_order` is when FQNs
are unique (checked per grammar by the driver command `keysok`) — the sorted
result is the same for every permutation of the input (`C16_sort_perm_invariant`).
-/
namespace Pg

section
variable {α : Type} (lt : α → α → Bool)

def insertBy (x : α) : List α → List α
  | [] => [x]
  | y :: ys => if lt x y then x :: y :: ys else y :: insertBy x ys

def sortBy (l : List α) : List α := l.foldl (fun acc x => insertBy lt x acc) []

/-- Sortedness: each element is before (or equal-keyed to) every later one. -/
def SortedBy (l : List α) : Prop := l.Pairwise (fun x y => lt y x = false)

/-- Relative to a carrier `S`: `act_order` is total only where fully qualified names differ. -/
structure StrictTotal (S : α → Prop) : Prop where
  irrefl : ∀ x, S x → lt x x = false
  trans : ∀ x y z, S x → S y → S z → lt x y = true → lt y z = true → lt x z = true
  total : ∀ x y, S x → S y → x ≠ y → lt x y = true ∨ lt y x = true

theorem insertBy_perm (x : α) : ∀ l : List α, (insertBy lt x l).Perm (x :: l)
  | [] => .refl _
  | y :: ys => by
    rw [insertBy]
    split
    · exact .refl _
    · exact ((insertBy_perm x ys).cons y).trans (.swap x y ys)

theorem foldl_insertBy_perm : ∀ l acc : List α,
    (l.foldl (fun acc x => insertBy lt x acc) acc).Perm (l ++ acc)
  | [], _ => .refl _
  | x :: xs, acc =>
    (foldl_insertBy_perm xs _).trans (((insertBy_perm lt x acc).append_left xs).trans List.perm_middle)

theorem C16_sort_perm (l : List α) : (sortBy lt l).Perm l := by
  have := foldl_insertBy_perm lt l []
  rwa [List.append_nil] at this

theorem insertBy_sorted (S : α → Prop) (hst : StrictTotal lt S) (x : α) (hx : S x) (l : List α)
    (hS : ∀ y ∈ l, S y) (hs : SortedBy lt l) : SortedBy lt (insertBy lt x l) := by
  fun_induction insertBy lt x l with
  | case1 => exact List.pairwise_singleton _ _
  | case2 y ys hxy =>
    -- `lt z x` would put `z` before `y` (directly or through `x`), against sortedness
    refine List.pairwise_cons.mpr ⟨fun z hz => Bool.eq_false_iff.mpr fun hzx => ?_, hs⟩
    have hzy := hst.trans z x y (hS z hz) hx (hS y List.mem_cons_self) hzx hxy
    rcases List.mem_cons.mp hz with rfl | hz
    · rw [hst.irrefl z (hS z List.mem_cons_self)] at hzy; cases hzy
    · rw [List.rel_of_pairwise_cons hs hz] at hzy; cases hzy
  | case3 y ys hxy ih =>
    obtain ⟨hs1, hs2⟩ := List.pairwise_cons.mp hs
    refine List.pairwise_cons.mpr ⟨fun z hz => ?_, ih (List.forall_mem_cons.mp hS).2 hs2⟩
    rcases List.mem_cons.mp ((insertBy_perm lt x ys).mem_iff.mp hz) with rfl | hz
    · exact Bool.eq_false_iff.mpr hxy
    · exact hs1 z hz

theorem C16_sort_sorted (S : α → Prop) (hst : StrictTotal lt S) (l : List α) (hl : ∀ y ∈ l, S y) :
    SortedBy lt (sortBy lt l) :=
  (List.foldlRecOn (motive := fun acc => (∀ y ∈ acc, S y) ∧ SortedBy lt acc) l _
    ⟨fun _ h => (List.not_mem_nil h).elim, List.Pairwise.nil⟩
    (fun acc ⟨hacc, hs⟩ x hxl =>
      ⟨fun y hy => (List.mem_cons.mp ((insertBy_perm lt x acc).mem_iff.mp hy)).elim (· ▸ hl x hxl) (hacc y),
        insertBy_sorted lt S hst x (hl x hxl) acc hacc hs⟩)).2

/-- Duplicates or not: both results are sorted permutations of one list, and a strict total
order leaves only one such. -/
theorem sortBy_eq_of_perm (S : α → Prop) (hst : StrictTotal lt S) {l1 l2 : List α}
    (h1 : ∀ y ∈ l1, S y) (h : l1.Perm l2) : sortBy lt l1 = sortBy lt l2 := by
  have h2 : ∀ y ∈ l2, S y := fun y hy => h1 y (h.mem_iff.mpr hy)
  refine List.Perm.eq_of_pairwise (le := fun x y => lt y x = false) (fun a b ha hb hab hba => ?_)
    (C16_sort_sorted lt S hst l1 h1) (C16_sort_sorted lt S hst l2 h2)
    ((C16_sort_perm lt l1).trans (h.trans (C16_sort_perm lt l2).symm))
  -- neither before the other: equal, by totality
  refine Classical.byContradiction fun hne => ?_
  rcases hst.total a b (h1 a ((C16_sort_perm lt l1).mem_iff.mp ha))
    (h2 b ((C16_sort_perm lt l2).mem_iff.mp hb)) hne with t | t
  · rw [hba] at t; cases t
  · rw [hab] at t; cases t

/-- **Permutation invariance.** Whatever order the dict was filled in, sorting
gives the same list. -/
theorem C16_sort_perm_invariant (S : α → Prop) (hst : StrictTotal lt S) (l1 l2 : List α)
    (h1 : ∀ y ∈ l1, S y) (h2 : ∀ y ∈ l2, S y) (n1 : l1.Nodup) (n2 : l2.Nodup)
    (h : ∀ z, z ∈ l1 ↔ z ∈ l2) : sortBy lt l1 = sortBy lt l2 :=
  sortBy_eq_of_perm lt S hst h1 ((List.perm_ext_iff_of_nodup n1 n2).mpr h)

end

/-- The model's action sort is `sortBy` with the `act_order` comparison. -/
theorem sortActions_eq_sortBy (w1 w2 : Nat) (g : GGrammar) (acts : List (Nat × List Action)) :
    sortActions w1 w2 g acts =
      sortBy (fun x y => before w1 w2 (g.terms.getD x.1 default) (g.terms.getD y.1 default)) acts := by
  unfold sortActions sortBy
  congr 1
  funext acc x
  induction acc with
  | nil => rfl
  | cons y ys ih => simp only [insertSorted, insertBy, ih]

end Pg
