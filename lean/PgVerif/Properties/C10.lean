import PgVerif.Proofs.LineCol
import PgVerif.Proofs.Viable
import PgVerif.Proofs.LRNotEarly
import PgVerif.Proofs.LRViable
import PgVerif.Model.Decode
import PgVerif.Proofs.GLRSound
/-!
# C10 — rejections are SyntaxErrors at the first offending token

Where the LR driver model reports a syntax error: behind the tokens it has shifted (a
reduction leaves the position where it is: `ActCase.reduce`), neither early (deterministic
driver over a validated table) nor late (sound item sets). GLR's reported position and
expected set are compared, on the explored scope, with the viable-prefix oracle `viableEnds`,
which is proved exact here once its charts saturate.
-/
namespace Pg

variable {g : Grammar} {T : Table} {inp : Input}

/-- The LR model reports a syntax error at the position where layout skipping
from the end of the shifted tokens arrives; those tokens are token edges of the
input deriving the stack's symbols. -/
theorem C10_lr_error_position (hw : T.wf g = true) (cf : LRCfg) (fuel p : Nat)
    (h : parseLR g T inp cf fuel = .syntaxError p) :
    ∃ (st : List (Nat × Tree)) (pos : Nat), StackD g inp T st pos ∧ p = inp.skip pos := by
  obtain ⟨c', hinv, hp⟩ := run_syntaxError hw cf fuel Config.init (Inv.init _) p h
  exact ⟨c'.stack, c'.pos, hinv.st, hp⟩

/-- The viable-prefix oracle is correct: sound, and complete once saturated, for every
grammar (ambiguous, nullable, cyclic) and input. -/
theorem C10_viable_ends_correct (hin : InputOK inp) (hm : InputMono inp) (fuel : Nat) (l : List Nat)
    (h : viableEnds g inp fuel = some l) (j : Nat) :
    j ∈ l ↔ j ≤ inp.len ∧ (j = 0 ∨ PrefixSeq g inp [.nt g.start] 0 j) :=
  viableEnds_correct hin hm fuel l h j

/-- The same for every input the compiled driver decodes from a dump (`InputOK` and `InputMono` are
theorems about the decoder). -/
theorem C10_viable_ends_correct_on_decoded_data (len : Nat) (skips : Array Nat)
    (ms : List (Nat × Nat × Nat)) (hsk : skips.size = len + 1) (fuel : Nat) (l : List Nat)
    (h : viableEnds g (Input.ofTables len skips ms) fuel = some l) (j : Nat) :
    j ∈ l ↔ j ≤ len ∧ (j = 0 ∨ PrefixSeq g (Input.ofTables len skips ms) [.nt g.start] 0 j) :=
  viableEnds_correct (Input.ofTables_ok len skips ms hsk) (Input.ofTables_mono len skips ms) fuel l h j

/-- **Not early**: if the deterministic driver over a validated, conflict-free table reports a
syntax error at `p`, then no token path of the input from 0 through a token `a` starting at `p`
begins a sentence, whatever terminals `v` follow. -/
theorem C10_not_early_when_deterministic (I : Nat → List LRV.VItem) (F : LRV.FirstData)
    (hw : T.wf g = true) (hv : LRV.lrComplete g T I F = true)
    (hT : detTableB T = true) (hL : lexDetB T inp = true)
    (hfin : ∀ s, T.n ≤ s → T.cells s = [] ∧ T.finish s = []) (hin : InputOK inp) (hm : InputMono inp)
    (lexDis : Bool) (fuel p : Nat)
    (herr : parseLR g T inp { consumeInput := true, lexDis := lexDis } fuel = .syntaxError p)
    (toks : List Tok) (a : Tok) (j : Nat) (v : List Nat)
    (hpath : TokPath inp 0 (toks ++ [a]) j) (ha : a.s = p) :
    ¬ Der g [.nt g.start] ((toks ++ [a]).map (·.term) ++ v) :=
  fun hder => not_early hw hv (detOK_of_bool hT hL hfin hin) hin hm _ rfl fuel p herr toks a j v hpath ha hder

/-- **Not late** (correct-prefix property): when the LR driver reports a syntax error at `p`, the
stack holds derivation trees of exactly the tokens between 0 and the raw position `pos` with
`p = skip pos` (`StackD`), and the symbols of that stack begin a sentential form of the grammar. -/
theorem C10_not_late (I : Nat → List LRV.VItem) (hw : T.wf g = true) (hv : LRV.lrSound g T I = true)
    (cf : LRCfg) (fuel p : Nat) (h : parseLR g T inp cf fuel = .syntaxError p) :
    ∃ (st : List (Nat × Tree)) (pos : Nat), StackD g inp T st pos ∧ p = inp.skip pos ∧
      ∃ (root : Nat) (η : List Sym), (∃ pr0, g.prod? 0 = some pr0 ∧ pr0.lhs = root) ∧
        SDer g [.nt root] (stackSyms T st ++ η) := by
  obtain ⟨st, pos, hs, hp⟩ := C10_lr_error_position hw cf fuel p h
  exact ⟨st, pos, hs, hp, stack_viable hv st pos hs⟩

/-- The same along every path of the nondeterministic automaton (every GSS path of the GLR driver):
whatever has been read begins a sentential form. -/
theorem C10_every_path_reads_viable_prefixes (I : Nat → List LRV.VItem) (hw : T.wf g = true)
    (hv : LRV.lrSound g T I = true) (c : Config) (h : Reach g T inp c) :
    StackD g inp T c.stack c.pos ∧
      ∃ (root : Nat) (η : List Sym), (∃ pr0, g.prod? 0 = some pr0 ∧ pr0.lhs = root) ∧
        SDer g [.nt root] (stackSyms T c.stack ++ η) :=
  ⟨(reach_inv hw c h).st, stack_viable hv c.stack c.pos (reach_inv hw c h).st⟩

/-- The reported line and column determine the position (string inputs). -/
theorem C10_linecol_inverse (text : List Nat) (pos : Nat) (h : pos ≤ text.length) :
    lineColToPos text (posToLineCol text pos).1 (posToLineCol text pos).2 = pos := by
  unfold lineColToPos posToLineCol
  rcases posToLineCol_go_spec text pos 1 0 h with h1 | ⟨d, c, h1, h2⟩
  · rw [h1, Nat.sub_self, lineColToPos.go, Nat.zero_add, Nat.zero_add]
  · rw [h1, Nat.add_sub_cancel_left, h2, Nat.zero_add]

/-- **No other failure inside the GLR driver**: over a well-formed table the GLR driver model never
meets a reduction by an unknown production or a missing goto, the two table lookups of
`glr.py::_reduce`/`_do_reductions` that would raise something other than `SyntaxError`. -/
theorem C10_glr_model_never_fails_internally (g : Grammar) (T : Table) (inp : Input) (hw : T.wf g = true)
    (hidem : ∀ p, inp.skip (inp.skip p) = inp.skip p) (consume lexDis : Bool) (fuel : Nat) :
    GLR.parseGLR g T inp consume lexDis fuel ≠ .crash :=
  GLR.parseGLR_nocrash hw hidem consume lexDis fuel

/-- Non-vacuity / sanity: "ab\ncd", position 4 is line 2 column 1. -/
example : posToLineCol [97, 98, 10, 99, 100] 4 = (2, 1) := by decide

end Pg
