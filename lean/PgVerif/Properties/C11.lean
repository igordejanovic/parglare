import PgVerif.Model.Recovery
import PgVerif.Proofs.Pos
/-!
# C11 — error recovery terminates, reports disjoint spans and parses the rest

About the LR recovery model (`Model/Recovery.lean`), for every table, input and recognizer
behaviour: a successful default recovery moves strictly forward inside the input, the
reported spans are ordered and disjoint, and recovery changes nothing when the plain driver
reports no syntax error. Termination of the Python loop, custom strategies and the GLR
recovery path are decided on the explored scope (correspondence and oracle legs).
-/
namespace Pg

variable {g : Grammar} {T : Table} {inp : Input}

theorem C11_progress (cf : LRCfg) (s : Nat) :
    ∀ (fuel pos p' : Nat) (tok : Tok), recoverScan T inp cf s fuel pos = .found p' tok →
      pos < p' ∧ p' ≤ inp.len := by
  intro fuel pos p' tok h
  fun_induction recoverScan T inp cf s fuel pos with
  | case1 => cases h
  | case2 fuel pos hlt hnt ih => exact ⟨Nat.lt_of_succ_lt (ih h).1, (ih h).2⟩
  | case3 fuel pos hlt tok' hnt => cases h; exact ⟨Nat.lt_succ_self _, hlt⟩
  | case4 => cases h
  | case5 => cases h

/-- On a list of spans with the latest first (`parser.errors` reversed): every span has
`start ≤ end`, each ends at or before the start of the next later one, and the latest ends at
or before `bound`. -/
def SpansOK : List (Nat × Nat) → Nat → Prop
  | [], _ => True
  | (a, b) :: rest, bound => a ≤ b ∧ b ≤ bound ∧ SpansOK rest a

theorem SpansOK.mono {l : List (Nat × Nat)} {b b' : Nat} (h : SpansOK l b) (hb : b ≤ b') : SpansOK l b' := by
  cases l with
  | nil => trivial
  | cons x xs => obtain ⟨a, c⟩ := x; exact ⟨h.1, Nat.le_trans h.2.1 hb, h.2.2⟩

theorem SpansOK.push {errs : List (Nat × Nat)} {a b : Nat} (h : SpansOK errs.reverse a) (hab : a ≤ b) :
    SpansOK (errs ++ [(a, b)]).reverse b := by
  rw [List.reverse_append]
  exact ⟨hab, Nat.le_refl _, h⟩

/-- The invariant: the spans so far end at or before the driver's front (`errs` is kept oldest
first, hence its reverse). -/
theorem runR_spans (hm : InputMono inp) (cf : LRCfg) (fuel : Nat) (c : Config) (errs : List (Nat × Nat))
    (hc : c.pos ≤ c.front) (hs : SpansOK errs.reverse c.front) :
    ∃ bound, SpansOK (runR g T inp cf fuel c errs).2.reverse bound := by
  fun_induction runR g T inp cf fuel c errs with
  | case1 => exact ⟨_, hs⟩
  | case2 f c errs c' hc' ih =>
    have hf := (step_forward hm cf c).1 c' hc'
    exact ih (hf.2 hc) (hs.mono hf.1)
  | case3 f c errs p hstep p' tok hrec ih =>
    obtain rfl := (step_forward hm cf c).2 p hstep
    -- the scan restarts at the front, which the raw position does not exceed
    have hlt := (C11_progress (T := T) (inp := inp) cf c.top _ _ p' tok hrec).1
    exact ih (Nat.le_trans hc (Nat.le_of_lt hlt)) (hs.push (Nat.le_of_lt hlt))
  | case4 f c errs p hstep | case5 f c errs p hstep =>
    obtain rfl := (step_forward hm cf c).2 p hstep
    exact ⟨_, hs.push (Nat.le_refl _)⟩
  | case6 => exact ⟨_, hs⟩

/-- The error spans reported by the recovery-enabled LR model are ordered and pairwise disjoint
(each ends at or before the start of the next later one), each with `start ≤ end`. -/
theorem C11_spans_ordered_disjoint (hm : InputMono inp) (cf : LRCfg) (fuel : Nat) :
    ∃ bound, SpansOK (parseLRrec g T inp cf fuel).2.reverse bound :=
  runR_spans hm cf fuel Config.init [] (Nat.le_refl _) trivial

/-- If the plain driver's outcome is not a syntax error, the recovery-enabled driver returns
the same outcome and records no error. -/
theorem C11_clean_input_noop (cf : LRCfg) :
    ∀ (fuel : Nat) (c : Config) (errs : List (Nat × Nat)),
      (∀ p, run g T inp cf fuel c ≠ .syntaxError p) →
      runR g T inp cf fuel c errs = (run g T inp cf fuel c, errs) := by
  intro fuel c errs h
  fun_induction runR g T inp cf fuel c errs with
  | case1 => rfl
  | case2 f c errs c' hs ih =>
    rw [run, hs] at h ⊢
    exact ih h
  | case3 f c _ p hs | case4 f c _ p hs | case5 f c _ p hs =>
    -- the plain run stops at this step with the same syntax error
    exact absurd (by rw [run, hs]) (h p)
  | case6 f c errs o _ hs => rw [run, hs]

end Pg
