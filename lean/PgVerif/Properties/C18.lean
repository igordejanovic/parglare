import PgVerif.Model.Table
/-!
# C18 — the dynamic disambiguation filter sees every marked decision and only those

Model of `Parser._dynamic_disambiguation` / `_call_dynamic_filter`
(`parglare/parser.py`): for the actions of the consulted cell, SHIFT actions
whose target state's symbol is not dynamic and REDUCE actions whose production
is not dynamic are kept without calling the filter; the others are kept iff the
filter accepts; ACCEPT is kept. The call trace records the actions the filter was
asked about. Proved for every cell, marking and filter, by reading the loop as two
filters over the cell (`dynFilter_eq`).
-/
namespace Pg

structure DynEnv where
  dynState : Nat → Bool      -- `to_state.symbol.dynamic`
  dynProd  : Nat → Bool      -- `production.dynamic`

def DynEnv.isDynamic (env : DynEnv) : Action → Bool
  | .shift s => env.dynState s
  | .reduce p => env.dynProd p
  | .accept => false

/-- Returns (actions kept, filter calls in order). -/
def dynFilter (env : DynEnv) (accept : Action → Bool) : List Action → List Action × List Action
  | [] => ([], [])
  | a :: rest =>
    let r := dynFilter env accept rest
    if env.isDynamic a then
      (if accept a then a :: r.1 else r.1, a :: r.2)
    else (a :: r.1, r.2)

theorem dynFilter_eq (env : DynEnv) (accept : Action → Bool) (acts : List Action) :
    dynFilter env accept acts =
      (acts.filter (fun a => !env.isDynamic a || accept a), acts.filter env.isDynamic) := by
  induction acts with
  | nil => rfl
  | cons a rest ih =>
    rw [dynFilter, ih, List.filter_cons, List.filter_cons]
    cases env.isDynamic a <;> cases accept a <;> rfl

theorem C18_only_marked (env : DynEnv) (accept : Action → Bool) (acts : List Action) :
    ∀ a ∈ (dynFilter env accept acts).2, env.isDynamic a = true ∧ a ∈ acts := by
  rw [dynFilter_eq]
  exact fun a h => (List.mem_filter.1 h).symm

theorem C18_every_marked (env : DynEnv) (accept : Action → Bool) (acts : List Action) :
    ∀ a ∈ acts, env.isDynamic a = true → a ∈ (dynFilter env accept acts).2 := by
  rw [dynFilter_eq]
  exact fun a h hd => List.mem_filter.2 ⟨h, hd⟩

theorem C18_rejected_not_taken (env : DynEnv) (accept : Action → Bool) (acts : List Action) :
    ∀ a ∈ (dynFilter env accept acts).1, a ∈ acts ∧ (env.isDynamic a = true → accept a = true) := by
  rw [dynFilter_eq]
  intro a h
  obtain ⟨hm, hk⟩ := List.mem_filter.1 h
  exact ⟨hm, fun hd => by rw [hd] at hk; exact hk⟩

theorem C18_accepted_taken (env : DynEnv) (accept : Action → Bool) (acts : List Action) :
    ∀ a ∈ acts, (env.isDynamic a = false ∨ accept a = true) → a ∈ (dynFilter env accept acts).1 := by
  rw [dynFilter_eq]
  intro a h hok
  refine List.mem_filter.2 ⟨h, ?_⟩
  rcases hok with h1 | h1
  · rw [h1]; rfl
  · rw [h1, Bool.or_true]

theorem C18_accept_all_identity (env : DynEnv) (acts : List Action) :
    (dynFilter env (fun _ => true) acts).1 = acts := by
  rw [dynFilter_eq]
  exact List.filter_eq_self.2 fun a _ => Bool.or_true _

theorem C18_unmarked_untouched (accept : Action → Bool) (acts : List Action) :
    dynFilter ⟨fun _ => false, fun _ => false⟩ accept acts = (acts, []) := by
  have hd (a : Action) : DynEnv.isDynamic ⟨fun _ => false, fun _ => false⟩ a = false := by
    cases a <;> rfl
  rw [dynFilter_eq, List.filter_eq_self.2 fun a _ => by rw [hd]; rfl,
    List.filter_eq_nil_iff.2 fun a _ => by rw [hd]; exact Bool.false_ne_true]

example : dynFilter ⟨fun s => s == 3, fun p => p == 1⟩ (fun a => a != .reduce 1)
    [.shift 3, .reduce 1, .reduce 2] = ([.shift 3, .reduce 2], [.shift 3, .reduce 1]) := by decide

end Pg
