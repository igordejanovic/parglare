import PgVerif.Proofs.Chart
import PgVerif.Proofs.LRUnamb
import PgVerif.Model.Decode
import PgVerif.Proofs.GLRSound
/-!
# C04 — LR parser is sound always (and exact when its table is deterministic)

What `Parser.parse` accepts is a parse of the input: for *every* table passing `Table.wf`, every
input and every recognizer behaviour. Over a table that also passes the completeness validator with
parglare's own item sets, holds at most one action per cell and whose expected terminals are never
lexically ambiguous on the input (`detTableB`, `lexDetB`), the parser accepts **exactly** the
sentences, its tree has the shape of every parse tree of the input ("shape": without the spans of
interior nodes, which C08 examines), and so has every tree of the GLR model's forest.
-/
namespace Pg

/-- **Soundness with `consume_input`.** Whatever the LR driver accepts is a parse of the whole input. -/
theorem C04_sound (g : Grammar) (T : Table) (inp : Input) (hw : T.wf g = true)
    (lexDis : Bool) (fuel : Nat) (t : Tree) (e p : Nat)
    (h : parseLR g T inp { consumeInput := true, lexDis := lexDis } fuel = .ok t e p) :
    IsParseOf g inp t := by
  obtain ⟨h1, h2, h3⟩ := run_sound hw _ fuel Config.init (Inv.init _) t e p h
  exact ⟨e, h1, by rw [← h2]; exact h3 rfl⟩

/-- **Soundness without `consume_input`** (shared with C17): the result derives a
prefix of the input ending at a token boundary. -/
theorem C04_sound_prefix (g : Grammar) (T : Table) (inp : Input) (hw : T.wf g = true)
    (cf : LRCfg) (fuel : Nat) (t : Tree) (e p : Nat)
    (h : parseLR g T inp cf fuel = .ok t e p) :
    IsPrefixParseOf g inp t := by
  obtain ⟨h1, _, _⟩ := run_sound hw cf fuel Config.init (Inv.init _) t e p h
  exact ⟨e, h1⟩

theorem C04_tree_checker_correct (g : Grammar) (inp : Input) (X : Sym) (i j : Nat) (t : Tree) :
    t.derivesB g inp X i j = true ↔ Derives g inp X i j t :=
  derivesB_iff g inp X i j t

theorem C04_sentence_oracle_correct (g : Grammar) (inp : Input) (hin : InputOK inp) (fuel : Nat)
    (b : Bool) (h : isSentence g inp fuel = some b) : b = true ↔ Sentence g inp :=
  isSentence_correct hin fuel b h

/-- Every token the scanner hands to the driver is a token edge of the input:
its recognizer matches there with exactly that (positive) length, or it is STOP
at the end of the input. -/
theorem C04_lookahead_is_token_edge (T : Table) (inp : Input) (cf : LRCfg) (s p : Nat) :
    ∀ tok ∈ nextTokens T inp cf.consumeInput cf.lexDis s p, tok.s = p ∧
      (tok.term ≠ STOP → inp.mlen tok.term p = some tok.len ∧ 0 < tok.len) ∧
      (tok.term = STOP → cf.consumeInput = true → p = inp.len) :=
  nextTokens_ok cf s p

/-- **Completeness when deterministic.** Over a validated, conflict-free table and a lexically
unambiguous input the LR driver accepts every sentence. -/
theorem C04_complete_when_deterministic (g : Grammar) (T : Table) (inp : Input)
    (I : Nat → List LRV.VItem) (F : LRV.FirstData) (hv : LRV.lrComplete g T I F = true)
    (hT : detTableB T = true) (hL : lexDetB T inp = true)
    (hfin : ∀ s, T.n ≤ s → T.cells s = [] ∧ T.finish s = []) (hin : InputOK inp)
    (lexDis : Bool) (h : Sentence g inp) :
    ∃ (fuel : Nat) (t : Tree) (e p : Nat),
      parseLR g T inp { consumeInput := true, lexDis := lexDis } fuel = .ok t e p :=
  det_complete hv (detOK_of_bool hT hL hfin hin) hin _ rfl h

/-- **Exactness when deterministic.** Under the same hypotheses and `Table.wf`, the driver accepts
exactly the sentences. -/
theorem C04_exact_when_deterministic (g : Grammar) (T : Table) (inp : Input)
    (I : Nat → List LRV.VItem) (F : LRV.FirstData) (hw : T.wf g = true)
    (hv : LRV.lrComplete g T I F = true) (hT : detTableB T = true) (hL : lexDetB T inp = true)
    (hfin : ∀ s, T.n ≤ s → T.cells s = [] ∧ T.finish s = []) (hin : InputOK inp) (lexDis : Bool) :
    Sentence g inp ↔ ∃ (fuel : Nat) (t : Tree) (e p : Nat),
      parseLR g T inp { consumeInput := true, lexDis := lexDis } fuel = .ok t e p := by
  constructor
  · exact C04_complete_when_deterministic g T inp I F hv hT hL hfin hin lexDis
  · rintro ⟨fuel, t, e, p, h⟩
    exact ⟨t, C04_sound g T inp hw lexDis fuel t e p h⟩

/-- **The driver's tree is the parse tree**: for every parse tree of the input the driver returns a
tree of the same shape. -/
theorem C04_parser_tree_is_the_parse_tree (g : Grammar) (T : Table) (inp : Input)
    (I : Nat → List LRV.VItem) (F : LRV.FirstData) (hv : LRV.lrComplete g T I F = true)
    (hT : detTableB T = true) (hL : lexDetB T inp = true)
    (hfin : ∀ s, T.n ≤ s → T.cells s = [] ∧ T.finish s = []) (hin : InputOK inp)
    (lexDis : Bool) (t : Tree) (h : IsParseOf g inp t) :
    ∃ (fuel : Nat) (t' : Tree) (e p : Nat),
      parseLR g T inp { consumeInput := true, lexDis := lexDis } fuel = .ok t' e p ∧ t'.shape = t.shape :=
  det_complete_shape hv (detOK_of_bool hT hL hfin hin) hin _ rfl t h

/-- **Unambiguity when deterministic**: any two parse trees of the input have the same shape. -/
theorem C04_unambiguous_when_deterministic (g : Grammar) (T : Table) (inp : Input)
    (I : Nat → List LRV.VItem) (F : LRV.FirstData) (hv : LRV.lrComplete g T I F = true)
    (hT : detTableB T = true) (hL : lexDetB T inp = true)
    (hfin : ∀ s, T.n ≤ s → T.cells s = [] ∧ T.finish s = []) (hin : InputOK inp)
    (t1 t2 : Tree) (h1 : IsParseOf g inp t1) (h2 : IsParseOf g inp t2) : t1.shape = t2.shape :=
  unambiguous hv (detOK_of_bool hT hL hfin hin) hin t1 t2 h1 h2

/-- **GLR over a deterministic table returns the parser's tree**: every tree of the forest the GLR
driver model answers with has the shape of the tree the LR driver returns. That the model answers
with a forest for every sentence is not proved (the comparison of `GLRParser` with `Parser` on
deterministic tables decides it on the explored scope). -/
theorem C04_glr_model_trees_are_the_parser_tree (g : Grammar) (T : Table) (inp : Input)
    (I : Nat → List LRV.VItem) (F : LRV.FirstData) (hw : T.wf g = true) (hv : LRV.lrComplete g T I F = true)
    (hT : detTableB T = true) (hL : lexDetB T inp = true)
    (hfin : ∀ s, T.n ≤ s → T.cells s = [] ∧ T.finish s = []) (hin : InputOK inp)
    (hidem : ∀ p, inp.skip (inp.skip p) = inp.skip p) (lexDis lexDisG : Bool) (fuelG : Nat) (sF : GLR.GState)
    (hG : GLR.parseGLR g T inp true lexDisG fuelG = .forest sF)
    (a : Nat) (ha : a ∈ sF.accepted) (l : Nat) (hl : l ∈ sF.parents a) (t : Tree) (ht : GLR.TreeOf sF l t) :
    ∃ (fuel : Nat) (t' : Tree) (e p : Nat),
      parseLR g T inp { consumeInput := true, lexDis := lexDis } fuel = .ok t' e p ∧ t'.shape = t.shape :=
  C04_parser_tree_is_the_parse_tree g T inp I F hv hT hL hfin hin lexDis t
    ((GLR.parseGLR_forest_sound hw hidem true lexDisG fuelG sF hG a ha l hl t ht).2 rfl)

theorem C04_glr_model_single_tree (g : Grammar) (T : Table) (inp : Input)
    (I : Nat → List LRV.VItem) (F : LRV.FirstData) (hw : T.wf g = true) (hv : LRV.lrComplete g T I F = true)
    (hT : detTableB T = true) (hL : lexDetB T inp = true)
    (hfin : ∀ s, T.n ≤ s → T.cells s = [] ∧ T.finish s = []) (hin : InputOK inp)
    (hidem : ∀ p, inp.skip (inp.skip p) = inp.skip p) (lexDisG : Bool) (fuelG : Nat) (sF : GLR.GState)
    (hG : GLR.parseGLR g T inp true lexDisG fuelG = .forest sF)
    (a1 : Nat) (ha1 : a1 ∈ sF.accepted) (l1 : Nat) (hl1 : l1 ∈ sF.parents a1) (t1 : Tree) (ht1 : GLR.TreeOf sF l1 t1)
    (a2 : Nat) (ha2 : a2 ∈ sF.accepted) (l2 : Nat) (hl2 : l2 ∈ sF.parents a2) (t2 : Tree) (ht2 : GLR.TreeOf sF l2 t2) :
    t1.shape = t2.shape :=
  C04_unambiguous_when_deterministic g T inp I F hv hT hL hfin hin t1 t2
    ((GLR.parseGLR_forest_sound hw hidem true lexDisG fuelG sF hG a1 ha1 l1 hl1 t1 ht1).2 rfl)
    ((GLR.parseGLR_forest_sound hw hidem true lexDisG fuelG sF hG a2 ha2 l2 hl2 t2 ht2).2 rfl)

/-- The same for the tables and inputs the compiled driver decodes from parglare's dumps: `InputOK`
and "empty beyond its states" are theorems about the decoder (`Model/Decode.lean`), so only
hypotheses that the driver evaluates on that very data remain. -/
theorem C04_exact_on_decoded_data (g : Grammar) (states : Array StateData) (terms : Array (Nat × Bool))
    (len : Nat) (skips : Array Nat) (ms : List (Nat × Nat × Nat)) (hsk : skips.size = len + 1)
    (I : Nat → List LRV.VItem) (F : LRV.FirstData)
    (hw : (Table.ofStates states terms).wf g = true)
    (hv : LRV.lrComplete g (Table.ofStates states terms) I F = true)
    (hT : detTableB (Table.ofStates states terms) = true)
    (hL : lexDetB (Table.ofStates states terms) (Input.ofTables len skips ms) = true) (lexDis : Bool) :
    Sentence g (Input.ofTables len skips ms) ↔ ∃ (fuel : Nat) (t : Tree) (e p : Nat),
      parseLR g (Table.ofStates states terms) (Input.ofTables len skips ms)
        { consumeInput := true, lexDis := lexDis } fuel = .ok t e p :=
  C04_exact_when_deterministic g _ _ I F hw hv hT hL (Table.ofStates_fin states terms)
    (Input.ofTables_ok len skips ms hsk) lexDis

/-! Non-vacuity: the grammar `S → a` with its LR table is well formed and the
driver accepts the input `a`. -/
def exG : Grammar := { prods := [⟨0, [.nt 1, .t 0]⟩, ⟨1, [.t 1]⟩], start := 1 }
def exT : Table where
  n := 3
  sym := fun s => if s = 1 then .nt 1 else if s = 2 then .t 1 else .nt 0
  cells := fun s => if s = 0 then [(1, [.shift 2])] else if s = 1 then [(0, [.accept])]
    else if s = 2 then [(0, [.reduce 1])] else []
  finish := fun _ => [false]
  gotoL := fun s => if s = 0 then [(1, 1)] else []
  prior := fun _ => 10
  prefer := fun _ => false
def exI : Input where
  len := 1
  skip := fun p => p
  mlen := fun t p => if t = 1 ∧ p = 0 then some 1 else none

example : exT.wf exG = true := by decide

def exItems : Nat → List LRV.VItem := fun s =>
  if s = 0 then [⟨0, 0, []⟩, ⟨1, 0, [0]⟩] else if s = 1 then [⟨0, 1, []⟩] else if s = 2 then [⟨1, 1, [0]⟩] else []
def exFirst : LRV.FirstData := { fst := fun _ => [1], nul := fun _ => false }
-- the table of `S → a` with its item sets passes the completeness validator and the determinism
-- conditions (not `hfin` of `C04_exact_when_deterministic`: `exT.finish` is never empty)
example : LRV.lrComplete exG exT exItems exFirst = true ∧ detTableB exT = true ∧ lexDetB exT exI = true := by
  decide
example : (match parseLR exG exT exI {} 10 with | .ok _ 1 1 => true | _ => false) = true := by decide

end Pg
