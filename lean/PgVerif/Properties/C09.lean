import PgVerif.Proofs.ActionsLR
/-!
# C09 — all ways of running semantic actions give the same result

The evaluation model (`Model/Actions.lean`) is the deferred route (`call_actions` on a tree):
by definition of `Tree.eval` / `applyProd` each action receives the sub-results of exactly its
production's right-hand side, in order. Proved here: what user, default and built-in actions
(`+`, `*`, `?`, one step of a list with separators) return, and that the LR driver with a
stack of action results returns the evaluation of the tree the tree-building driver returns.
The agreement of the three implementation routes (on-the-fly, deferred, GLR single tree) with
these models is the correspondence leg.
-/
namespace Pg

variable (env : ActEnv)

/-- The left-recursive chain parglare builds for `x+`:
`x_1: x_1 x | x` with productions `pRec`, `pBase`; the list holds the element
trees, first element first. -/
def chainPlus (pRec pBase : Nat) : List Tree → Tree
  | [] => .node pBase 0 0 []          -- not produced for `+` (at least one element)
  | [x] => .node pBase 0 0 [x]
  | x :: y :: rest => chainPlusAux pRec (.node pBase 0 0 [x]) (y :: rest)
where chainPlusAux (pRec : Nat) : Tree → List Tree → Tree
  | acc, [] => acc
  | acc, y :: rest => chainPlusAux pRec (.node pRec 0 0 [acc, y]) rest

def PlusEnv (env : ActEnv) (pRec pBase : Nat) : Prop :=
  (env.prods.getD pRec default).kind = .builtin .collectFirst ∧
  (env.prods.getD pBase default).kind = .builtin .passNochange

theorem collectFirst_snoc {a v : Val} {vs : List Val} (ha : a = .list vs) (hv : v ≠ .none) :
    applyBuiltin .collectFirst [a, v] = .list (vs ++ [v]) := by
  subst ha
  cases v with
  | none => exact absurd rfl hv
  | _ => rfl

theorem collectFirstSep_eq (a sep v : Val) :
    applyBuiltin .collectFirstSep [a, sep, v] = applyBuiltin .collectFirst [a, v] := by
  cases v <;> rfl

theorem chainPlusAux_eval {pRec : Nat} (h : (env.prods.getD pRec default).kind = .builtin .collectFirst)
    (rest : List Tree) (hne : ∀ y ∈ rest, y.eval env ≠ Val.none) (acc : Tree) (vs : List Val)
    (hacc : acc.eval env = .list vs) :
    (chainPlus.chainPlusAux pRec acc rest).eval env = .list (vs ++ Tree.evalL env rest) := by
  induction rest generalizing acc vs with
  | nil => rw [chainPlus.chainPlusAux, hacc, Tree.evalL, List.append_nil]
  | cons y rest ih =>
    have ⟨hy, hrest⟩ := List.forall_mem_cons.1 hne
    have hstep : (Tree.node pRec 0 0 [acc, y]).eval env = .list (vs ++ [y.eval env]) :=
      (eval_builtin h 0 0 [acc, y]).trans (collectFirst_snoc hacc hy)
    rw [chainPlus.chainPlusAux, ih hrest _ _ hstep, List.append_assoc]
    rfl

/-- `x+` yields the flat list of the n matched elements, for every n ≥ 1 (`collect_first`
drops an element whose own result is None: the documented exception). -/
theorem C09_collect_plus (pRec pBase : Nat) (h : PlusEnv env pRec pBase) (x : Tree) (rest : List Tree)
    (hne : ∀ y ∈ rest, y.eval env ≠ Val.none) :
    (chainPlus pRec pBase (x :: rest)).eval env = .list (Tree.evalL env (x :: rest)) := by
  have hb : (Tree.node pBase 0 0 [x]).eval env = .list [x.eval env] := eval_builtin h.2 0 0 [x]
  cases rest with
  | nil => exact hb
  | cons y rest => exact chainPlusAux_eval env h.1 (y :: rest) hne _ _ hb

/-- `x*`: the wrapper `x_0: x_1 | EMPTY` returns the list of `x_1`, or the
empty list. -/
theorem C09_zero_or_more (pWrap pEmpty : Nat)
    (h1 : (env.prods.getD pWrap default).kind = .builtin .zeroAction)
    (h2 : (env.prods.getD pEmpty default).kind = .builtin .zeroAction) (inner : Tree) :
    (Tree.node pWrap 0 0 [inner]).eval env = inner.eval env ∧
    (Tree.node pEmpty 0 0 []).eval env = .list [] :=
  ⟨eval_builtin h1 0 0 [inner], eval_builtin h2 0 0 []⟩

/-- `x?`: the match or None. -/
theorem C09_optional (pSome pNone : Nat)
    (h1 : (env.prods.getD pSome default).kind = .builtin .passSingle)
    (h2 : (env.prods.getD pNone default).kind = .builtin .passNone) (x : Tree) :
    (Tree.node pSome 0 0 [x]).eval env = x.eval env ∧
    (Tree.node pNone 0 0 []).eval env = Val.none :=
  ⟨eval_builtin h1 0 0 [x], eval_builtin h2 0 0 []⟩

/-- Separators are matched between elements and dropped from the result. -/
theorem C09_collect_sep_step (pRec : Nat)
    (h : (env.prods.getD pRec default).kind = .builtin .collectFirstSep)
    (acc sep y : Tree) (vs : List Val) (hacc : acc.eval env = .list vs) (hy : y.eval env ≠ Val.none) :
    (Tree.node pRec 0 0 [acc, sep, y]).eval env = .list (vs ++ [y.eval env]) :=
  (eval_builtin h 0 0 [acc, sep, y]).trans
    ((collectFirstSep_eq ..).trans (collectFirst_snoc hacc hy))

/-- Arguments arrive in right-hand-side order and named matches pick the
sub-result at their index (`=`) or its truthiness (`?=`). -/
theorem C09_user_action_args (p : Nat) (named : List (Nat × Bool))
    (h : env.prods.getD p default = ⟨.user, named⟩) (cs : List Tree) (s e : Nat) :
    (Tree.node p s e cs).eval env = .call p (Tree.evalL env cs)
      (named.map (fun (i, isBool) =>
        (i, if isBool then .bool ((Tree.evalL env cs).getD i .none).truthy
            else (Tree.evalL env cs).getD i .none))) := by
  simp only [Tree.eval_node, applyProd, h]

/-- Without user actions the result mirrors the tree: a single sub-result is
unpacked, otherwise the list of sub-results. -/
theorem C09_default_mirrors_tree (p : Nat) (named : List (Nat × Bool))
    (h : env.prods.getD p default = ⟨.default, named⟩) (cs : List Tree) (s e : Nat) :
    (Tree.node p s e cs).eval env =
      (match Tree.evalL env cs with | [x] => x | l => .list l) := by
  simp only [Tree.eval_node, applyProd, h]
  cases Tree.evalL env cs with
  | nil => rfl
  | cons x xs => cases xs <;> rfl

/-- Deferred = on-the-fly: the value-stack driver returns what `parseLR` returns, with the
accepted tree evaluated. -/
theorem C09_deferred_eq_onthefly (g : Grammar) (env : ActEnv) (T : Table) (inp : Input) (cf : LRCfg)
    (fuel : Nat) :
    runV g env T inp cf fuel (Config.init.toV env) = (parseLR g T inp cf fuel).toV env :=
  runV_map fuel Config.init

theorem C09_onthefly_result (g : Grammar) (env : ActEnv) (T : Table) (inp : Input) (cf : LRCfg)
    (fuel : Nat) (t : Tree) (e p : Nat) (h : parseLR g T inp cf fuel = .ok t e p) :
    runV g env T inp cf fuel (Config.init.toV env) = .ok (t.eval env) e p := by
  rw [C09_deferred_eq_onthefly, h]; rfl

end Pg
