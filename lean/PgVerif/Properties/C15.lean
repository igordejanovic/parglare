/-!
# C15 — parsers are reusable and grammars are not corrupted by building parsers

Model of the mutable footprint of a parser instance and of a `Grammar` object
(`parglare/parser.py::Parser.parse`, `glr.py::GLRParser.parse`,
`tables/__init__.py::create_table`, `first`):
* per-parse fields of a parser (`errors`, `in_error_recovery`, the parse stack /
  active heads, accepted heads, error-reporting state) are assigned at the start
  of `parse` before anything reads them;
* `create_table` replaces the right-hand side of production 0 by
  `[start symbol, STOP]`, computes, and puts the old value back on every modelled
  exit (normal return, state-budget exception); the FIRST cache is written once
  and is a function of the grammar's productions other than production 0.
An operation history is any list of parses (of anything, with any outcome) and
builds (succeeding or failing, any start production). That a parse does not read
what earlier parses left is how `parseOp` is written; what needs the history is
production 0.
Exceptions thrown by user callbacks in the middle of a parse and module-level
state are outside the model and are exercised by the history harness.
-/
namespace Pg

structure PFields where
  errors : List Nat
  inRecovery : Bool
  stack : List Nat
  accepted : List Nat
deriving DecidableEq, Repr, Inhabited

structure GFields where
  prod0rhs : List Nat
  firstCache : Option Nat       -- a digest of the FIRST sets, once computed
deriving DecidableEq, Repr, Inhabited

/-- What a parse computes from freshly initialised fields. The driver is a
parameter: any function of (static configuration, input, initial fields). -/
def parseOp (driver : Nat → Nat → PFields → PFields × Nat) (static input : Nat) (_old : PFields) :
    PFields × Nat :=
  driver static input { errors := [], inRecovery := false, stack := [0], accepted := [] }

/-- `parse` overwrites every per-parse field before reading it: the result does
not depend on what earlier parses left behind. -/
theorem C15_parse_reinit (driver : Nat → Nat → PFields → PFields × Nat) (static input : Nat)
    (old1 old2 : PFields) :
    (parseOp driver static input old1).2 = (parseOp driver static input old2).2 := rfl

/-- `create_table`: swap production 0, compute (possibly failing), restore.
`firstOf` is the FIRST digest of the grammar (it does not depend on
production 0); `tableOf` the table for a given augmented production. -/
def buildOp (firstOf : Nat) (tableOf : List Nat → Nat → Option Nat) (startRhs : List Nat) (opts : Nat)
    (g : GFields) : GFields × Option Nat :=
  let g1 : GFields := { g with firstCache := some firstOf }          -- first(): cached on first use
  let old := g1.prod0rhs
  let g2 : GFields := { g1 with prod0rhs := startRhs }               -- swap
  let result := tableOf g2.prod0rhs opts                             -- may fail (none)
  ({ g2 with prod0rhs := old }, result)                              -- restore on every exit

/-- A build, whether it succeeds or fails and whatever start production it uses, leaves
production 0 as it found it, and the FIRST cache equal to the grammar's FIRST digest. -/
theorem C15_build_restores (firstOf : Nat) (tableOf : List Nat → Nat → Option Nat) (startRhs : List Nat)
    (opts : Nat) (g : GFields) :
    (buildOp firstOf tableOf startRhs opts g).1.prod0rhs = g.prod0rhs ∧
    (buildOp firstOf tableOf startRhs opts g).1.firstCache = some firstOf :=
  ⟨rfl, rfl⟩

/-- The table a build returns depends only on the requested start production and
options, not on the grammar's mutable fields. -/
theorem C15_build_result_independent (firstOf : Nat) (tableOf : List Nat → Nat → Option Nat)
    (startRhs : List Nat) (opts : Nat) (g1 g2 : GFields) :
    (buildOp firstOf tableOf startRhs opts g1).2 = (buildOp firstOf tableOf startRhs opts g2).2 := rfl

inductive HOp where
  | parse (input : Nat)
  | build (startRhs : List Nat) (opts : Nat)
deriving Repr, Inhabited

structure World where
  p : PFields
  g : GFields
deriving DecidableEq, Repr, Inhabited

def applyH (driver : Nat → Nat → PFields → PFields × Nat) (firstOf : Nat)
    (tableOf : List Nat → Nat → Option Nat) (static : Nat) (w : World) : HOp → World
  | .parse x => { w with p := (parseOp driver static x w.p).1 }
  | .build r o => { w with g := (buildOp firstOf tableOf r o w.g).1 }

theorem applyH_prod0 (driver : Nat → Nat → PFields → PFields × Nat) (firstOf : Nat)
    (tableOf : List Nat → Nat → Option Nat) (static : Nat) (ops : List HOp) (w : World) :
    (ops.foldl (applyH driver firstOf tableOf static) w).g.prod0rhs = w.g.prod0rhs := by
  induction ops generalizing w with
  | nil => rfl
  | cons op rest ih => exact (ih _).trans (by cases op <;> rfl)

/-- After any history, a probe parse and a probe build give what they give on the objects the
history started from, and production 0 is what it was. -/
theorem C15_history_independent (driver : Nat → Nat → PFields → PFields × Nat) (firstOf : Nat)
    (tableOf : List Nat → Nat → Option Nat) (static : Nat) :
    ∀ (ops : List HOp) (w : World) (x : Nat) (r : List Nat) (o : Nat),
      let w' := ops.foldl (applyH driver firstOf tableOf static) w
      (parseOp driver static x w'.p).2 = (parseOp driver static x w.p).2 ∧
      (buildOp firstOf tableOf r o w'.g).2 = (buildOp firstOf tableOf r o w.g).2 ∧
      w'.g.prod0rhs = w.g.prod0rhs :=
  fun ops w _ _ _ => ⟨C15_parse_reinit .., C15_build_result_independent ..,
    applyH_prod0 driver firstOf tableOf static ops w⟩

end Pg
