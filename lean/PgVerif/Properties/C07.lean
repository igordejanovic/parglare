import PgVerif.Proofs.LRSound
/-!
# C07 — token choice follows the documented lexical disambiguation order

About the scanner model (`Model/Lex.lean`), for every table, input, recognizer behaviour, state
and position:
* only expected terminals whose recognizers match are returned, with exactly the matched length
  (`C07_tokens_are_matching_expected`, `C07_scan_only_expected`);
* disambiguation returns a sublist of what was recognized, every returned token is a longest
  one, and if a preferred token is returned only preferred ones are (`C07_disamb_*`);
* the scanner's shortcuts never change the outcome: for every state whose expected list is
  sorted as `sort_state_actions` sorts it and flagged as `calc_finish_flags` flags it (decidable,
  evaluated on every table the implementation builds), `_next_tokens` returns exactly R1–R5 of
  `Spec/LexRules.lean` on the candidates (`C07_next_tokens_eq_rules`), and with lexical
  disambiguation off the candidates of the highest matching priority (`C07_next_tokens_nolex`).
  The one input-dependent condition (`strDecB`: matching string-like terminals of one priority
  come in strictly decreasing length in table order) is evaluated per position; where it fails
  the documented rules leave a tie that the implementation breaks by order, and the comparison
  reports it.
-/
namespace Pg

variable {T : Table} {inp : Input}

theorem C07_tokens_are_matching_expected (cf : LRCfg) (s p : Nat) :
    ∀ tok ∈ nextTokens T inp cf.consumeInput cf.lexDis s p, tok.s = p ∧
      (tok.term ≠ STOP → inp.mlen tok.term p = some tok.len ∧ 0 < tok.len) ∧
      (tok.term = STOP → cf.consumeInput = true → p = inp.len) :=
  nextTokens_ok cf s p

theorem C07_disamb_sublist (toks : List Tok) : ∀ t ∈ lexDisamb T toks, t ∈ toks :=
  lexDisamb_sub toks

theorem C07_disamb_longest (toks : List Tok) :
    ∀ t ∈ lexDisamb T toks, ∀ u ∈ toks, u.len ≤ t.len := by
  intro t ht u hu
  have ht' : t ∈ rule45 T toks := lexDisamb_eq_rule45 T toks ▸ ht
  rw [(mem_rule45 T ht').2]
  exact le_maxBy hu

/-- If disambiguation returns a preferred token, every returned token is
preferred (R5), unless a single longest match decided before. -/
theorem C07_disamb_prefer (toks : List Tok) (h2 : 1 < toks.length)
    (hl : ((toks.filter (fun t => t.len == toks.foldl (fun m t => max m t.len) 0)).length == 1) = false)
    (t : Tok) (ht : t ∈ lexDisamb T toks) (hp : T.prefer t.term = true) :
    ∀ u ∈ lexDisamb T toks, T.prefer u.term = true := by
  rw [lexDisamb_eq_rule45] at ht ⊢
  exact rule45_prefer T ht hp

/-- The recognition loop only returns terminals of the list it was given. -/
theorem C07_scan_only_expected (p : Nat) :
    ∀ (l : List (Nat × Bool)) (last : Nat) (acc : List Tok),
      (∀ t ∈ acc, t.term ∈ l.map (·.1) ∨ t ∈ acc) →
      ∀ t ∈ recognize T inp p l last acc, t ∈ acc ∨ t.term ∈ l.map (·.1) := by
  intro l last acc _ t ht
  refine (recognize_sub_cands T l last acc t ht).imp_right (fun h => ?_)
  obtain ⟨y, hy, _, _, rfl⟩ := mem_cands h
  exact List.mem_map_of_mem hy

theorem cands_expected (s p : Nat) (hlen : (T.finish s).length = (T.cells s).length) :
    cands inp p (T.expected s) = candidates T inp s p := by
  rw [candidates, ← expected_fst hlen, List.filterMap_map]
  rfl  -- `candOf` is the function of `candidates` after `·.1`

/-- **The scanner's shortcuts never change the outcome** (lexical disambiguation
on): `_next_tokens` is R1–R5 on the candidates; STOP is returned only when it is
expected, admissible and nothing else matches. -/
theorem C07_next_tokens_eq_rules (strLike : Nat → Bool) (consume : Bool) (s p : Nat) (hp : p < inp.len)
    (hlen : (T.finish s).length = (T.cells s).length)
    (hs : lexSortedB T strLike (T.expected s) = true)
    (hf : flagsOKB T strLike (T.expected s) = true)
    (hd : strDecB T inp strLike p (T.expected s) = true) :
    nextTokens T inp consume true s p =
      if ((T.cells s).any (fun c => c.1 == STOP) && (!consume || p == inp.len)) = true
          ∧ candidates T inp s p = []
      then [⟨STOP, p, 0⟩] else lexRules T strLike (candidates T inp s p) := by
  rw [nextTokens, if_pos hp, if_pos rfl, ← cands_expected s p hlen]
  exact scan_stop_eq_rules T inp strLike p _ _ 0 (lexSortedB_sound T strLike _ hs)
    (flagsOKB_sound T strLike _ hf) (strDecB_sound T inp strLike p _ hd)

/-- Lexical disambiguation off (the GLR default): every matching expected terminal
of the highest matching priority, next to STOP where that is admissible. -/
theorem C07_next_tokens_nolex (strLike : Nat → Bool) (consume : Bool) (s p : Nat) (hp : p < inp.len)
    (hlen : (T.finish s).length = (T.cells s).length)
    (hs : lexSortedB T strLike (T.expected s) = true)
    (hf : ∀ x ∈ T.expected s, x.2 = false) :
    nextTokens T inp consume false s p =
      (if ((T.cells s).any (fun c => c.1 == STOP) && (!consume || p == inp.len)) = true
       then [⟨STOP, p, 0⟩] else []) ++ topPriority T (candidates T inp s p) := by
  rw [nextTokens, if_pos hp, if_neg Bool.false_ne_true, ← cands_expected s p hlen,
    scan_nolex_eq_top T inp strLike p _ 0 (lexSortedB_sound T strLike _ hs) hf]

def exLexT : Table where
  n := 1
  sym := fun _ => .nt 0
  cells := fun _ => []
  finish := fun _ => []
  gotoL := fun _ => []
  prior := fun _ => 10
  prefer := fun t => t == 2

/-- Non-vacuity: longest match between a 1- and two 2-character tokens, then prefer. -/
example : lexDisamb exLexT [⟨1, 0, 1⟩, ⟨2, 0, 2⟩, ⟨3, 0, 2⟩] = [⟨2, 0, 2⟩] := by decide

/-- Non-vacuity of the hypotheses of `C07_next_tokens_eq_rules`: a keyword (string-like,
finish flag set) before two regex-like terminals of the same priority and one of lower
priority. -/
example : lexSortedB { exLexT with prior := fun t => if t == 4 then 5 else 10 } (fun t => t == 1)
      [(1, true), (2, false), (3, true), (4, false)] = true ∧
    flagsOKB { exLexT with prior := fun t => if t == 4 then 5 else 10 } (fun t => t == 1)
      [(1, true), (2, false), (3, true), (4, false)] = true := by decide

end Pg
