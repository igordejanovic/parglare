/-!
# C20 — a grammar split over imported files means the flattened grammar

Model of the file registry (`PGFileImport.load_pgfile`, `Grammar.imported_files`,
`parglare/grammar.py`): files are loaded depth-first in import order and a file
already in the registry is not loaded again. Proved for every import graph
(chains, diamonds, cycles, self-imports): no file is loaded twice
(`C20_each_file_once`), everything already registered stays registered
(`C20_registry_grows`), and the root is loaded (`C20_loaded_contains_start`). That
symbol resolution over the loaded files equals the flattened single-file grammar is
the differential leg.
-/
namespace Pg

/-- Depth-first loading with a registry. `imports f` are the files imported by
`f`, in order. -/
def loadDfs (imports : Nat → List Nat) : Nat → List Nat → List Nat → List Nat
  | 0, _, reg => reg
  | _ + 1, [], reg => reg
  | fuel + 1, f :: rest, reg =>
    if reg.contains f then loadDfs imports fuel rest reg
    else loadDfs imports fuel (imports f ++ rest) (reg ++ [f])

theorem C20_each_file_once (imports : Nat → List Nat) :
    ∀ (fuel : Nat) (todo reg : List Nat), reg.Nodup → (loadDfs imports fuel todo reg).Nodup := by
  intro fuel todo reg h
  fun_induction loadDfs imports fuel todo reg with
  | case1 | case2 => exact h
  | case3 fuel f rest reg hf ih => exact ih h
  | case4 fuel f rest reg hf ih =>
    -- `f` is not in the registry it is appended to
    exact ih (List.nodup_append.2 ⟨h, List.pairwise_singleton _ _, fun _ ha _ hb hab =>
      hf (List.contains_iff_mem.2 (List.mem_singleton.1 hb ▸ hab ▸ ha))⟩)

theorem C20_registry_grows (imports : Nat → List Nat) :
    ∀ (fuel : Nat) (todo reg : List Nat), ∀ x ∈ reg, x ∈ loadDfs imports fuel todo reg := by
  intro fuel todo reg x h
  fun_induction loadDfs imports fuel todo reg with
  | case1 | case2 => exact h
  | case3 fuel f rest reg hf ih => exact ih h
  | case4 fuel f rest reg hf ih => exact ih (List.mem_append_left _ h)

theorem C20_loaded_contains_start (imports : Nat → List Nat) (fuel root : Nat) :
    root ∈ loadDfs imports (fuel + 1) [root] [] := by
  -- one step of `loadDfs` (the empty registry does not contain `root`) leaves this call
  exact C20_registry_grows imports fuel (imports root ++ []) [root] root (List.mem_singleton_self _)

/-- Non-vacuity: a diamond with a back edge (cycle). 0 → 1, 2; 1 → 3; 2 → 3; 3 → 0. -/
example : loadDfs (fun f => if f = 0 then [1, 2] else if f = 1 then [3] else if f = 2 then [3]
    else if f = 3 then [0] else []) 20 [0] [] = [0, 1, 3, 2] := by decide

end Pg
