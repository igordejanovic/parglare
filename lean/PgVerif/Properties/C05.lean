import PgVerif.Spec.LR1
import PgVerif.Proofs.LRUnamb
/-!
# C05 — table construction terminates and is a faithful LR(1)-family table

About the model of the construction (`Model/TableGen.lean`, compared with parglare's tables on the
explored scope): conflict resolution never invents an action, so it only removes alternatives of the
LR(1)-family automaton. **Nothing valid is missing** is proved by validation: over every table that
passes the completeness validator of `Spec/LRValid.lean` with the item sets its states stand for,
every sentence has an accepting run of the nondeterministic LR automaton, and with `Table.wf` only
sentences have; the validator is evaluated on every strategy-free LALR and SLR table parglare
builds, with parglare's own item sets and FIRST sets. Faithfulness to the canonical LR(1)/LALR(1)
automata (`Spec/LR1.lean`) and termination are decided on the explored scope only.
-/
namespace Pg

theorem sublist_ite {α : Type} {c : Prop} [Decidable c] {x y l : List α}
    (hx : x.Sublist l) (hy : y.Sublist l) : (if c then x else y).Sublist l := by
  split <;> assumption

/-- The shift/reduce decision returns the cell, or the cell without its shift. -/
theorem decideShift_sub (g : GGrammar) (o : GenOpts) (cell : List Action) (p shPrior : Nat) :
    (decideShift g o cell p shPrior).1.Sublist cell := by
  unfold decideShift
  cases cell.find? isShiftLike with
  | none => exact .refl _
  | some sh =>
    simp only [apply_ite Prod.fst]
    exact sublist_ite
      -- equal priorities: left associativity drops the shift, otherwise the cell stays
      (sublist_ite List.filter_sublist (sublist_ite (.refl _) (.refl _)))
      -- a higher priority of the production drops the shift, a lower one keeps the cell
      (sublist_ite List.filter_sublist (.refl _))

/-- The reduce/reduce decision appends the reduction (to the cell, or to the cell without its
reductions) or leaves the cell. -/
theorem addReduce_sub (g : GGrammar) (cell reduces : List Action) (p : Nat) :
    (addReduce g cell reduces p).Sublist (cell ++ [Action.reduce p]) := by
  cases reduces with
  | nil => exact .refl _
  | cons r0 _ =>
    exact sublist_ite (.refl _)
      (sublist_ite (List.filter_sublist.append_right _) (List.sublist_append_left _ _))

/-- Resolution only deletes from the cell with the reduction put at its end: nothing is added,
reordered or doubled. -/
theorem resolveCell_sub (g : GGrammar) (o : GenOpts) (cell : List Action) (p shPrior : Nat) :
    (resolveCell g o cell p shPrior).Sublist (cell ++ [Action.reduce p]) :=
  have hd := decideShift_sub g o cell p shPrior
  sublist_ite ((addReduce_sub g _ _ p).trans (hd.append_right _))
    (hd.trans (List.sublist_append_left _ _))

theorem C05_resolve_no_invention (g : GGrammar) (o : GenOpts) (cell : List Action) (p shPrior : Nat) :
    ∀ a ∈ resolveCell g o cell p shPrior, a ∈ cell ∨ a = Action.reduce p := fun _ ha =>
  (List.mem_append.1 ((resolveCell_sub g o cell p shPrior).subset ha)).imp_right List.mem_singleton.1

/-- A reduction entering an empty cell is added, whatever the priorities and options. -/
theorem C05_resolve_empty_cell (g : GGrammar) (o : GenOpts) (p shPrior : Nat) :
    resolveCell g o [] p shPrior = [Action.reduce p] := rfl

/-- Every sentence has an accepting run over a validated table (completeness validation in the
style of Jourdan, Pottier, Leroy; `I` are the item sets, `F` the FIRST data handed over). -/
theorem C05_validated_table_complete {g : Grammar} {T : Table} {I : Nat → List LRV.VItem}
    {F : LRV.FirstData} {inp : Input} (hv : LRV.lrComplete g T I F = true) (hin : InputOK inp)
    (h : Sentence g inp) :
    ∃ (c : Config) (t : Tree) (e p : Nat), Reach g T inp c ∧ NStep g T inp c (.done (.ok t e p)) := by
  obtain ⟨t, ht⟩ := h
  exact lr_complete hv hin t ht

/-- Over a well-formed, validated table the nondeterministic LR automaton accepts exactly the
sentences. -/
theorem C05_validated_table_exact {g : Grammar} {T : Table} {I : Nat → List LRV.VItem}
    {F : LRV.FirstData} {inp : Input} (hw : T.wf g = true) (hv : LRV.lrComplete g T I F = true)
    (hin : InputOK inp) :
    Sentence g inp ↔
      ∃ (c : Config) (t : Tree) (e p : Nat), Reach g T inp c ∧ NStep g T inp c (.done (.ok t e p)) := by
  constructor
  · exact C05_validated_table_complete hv hin
  · rintro ⟨c, t, e, p, hr, hs⟩
    exact ⟨t, nd_sound hw c hr t e p hs⟩

end Pg
