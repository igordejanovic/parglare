import PgVerif.Spec.Chart
import PgVerif.Proofs.Lex
/-!
How the driver builds `Input` and `Table` values from the finite dumps of the harness, with
the facts the theorems assume about them proved instead of "true by construction of the
decoder": `InputOK`, `InputMono`, a table empty beyond its states.
-/
namespace Pg

/-- An input from a skip table (positions `0..len`) and a match table
`(terminal, position, length)`: out-of-range matches and matches of `STOP` are
dropped, skipping is clamped into `[p, len]`, beyond the text nothing is skipped. -/
def Input.ofTables (len : Nat) (skips : Array Nat) (ms : List (Nat × Nat × Nat)) : Input :=
  let ms' := ms.filter (fun m => m.1 != STOP && decide (m.2.1 + m.2.2 ≤ len))
  { len := len
    skip := fun p => match skips[p]? with
      | some q => if p ≤ len then max p (min q len) else p
      | none => p
    mlen := fun t p => (ms'.find? (fun m => m.1 == t && m.2.1 == p)).map (fun m => m.2.2) }

theorem Input.ofTables_skip (len : Nat) (skips : Array Nat) (ms : List (Nat × Nat × Nat)) (p : Nat) :
    p ≤ (Input.ofTables len skips ms).skip p ∧
      (p ≤ len → (Input.ofTables len skips ms).skip p ≤ len) ∧
      (¬ p ≤ len → (Input.ofTables len skips ms).skip p = p) := by
  simp only [Input.ofTables]
  cases skips[p]? with
  | none => exact ⟨Nat.le_refl _, id, fun _ => rfl⟩
  | some q =>
    by_cases hp : p ≤ len
    · simp only [if_pos hp]
      exact ⟨Nat.le_max_left _ _, fun _ => Nat.max_le.mpr ⟨hp, Nat.min_le_right _ _⟩, fun h => absurd hp h⟩
    · simp only [if_neg hp]
      exact ⟨Nat.le_refl _, fun h => absurd h hp, fun _ => trivial⟩

theorem Input.ofTables_mlen {len : Nat} {skips : Array Nat} {ms : List (Nat × Nat × Nat)} {t p l : Nat}
    (h : (Input.ofTables len skips ms).mlen t p = some l) : t ≠ STOP ∧ p + l ≤ len := by
  simp only [Input.ofTables, Option.map_eq_some_iff] at h
  obtain ⟨m, hm, rfl⟩ := h
  have h1 := (List.mem_filter.mp (List.mem_of_find?_eq_some hm)).2
  have h2 := List.find?_some hm
  rw [Bool.and_eq_true, bne_iff_ne, decide_eq_true_eq] at h1
  rw [Bool.and_eq_true, beq_iff_eq, beq_iff_eq] at h2
  exact ⟨h2.1 ▸ h1.1, h2.2 ▸ h1.2⟩

theorem Input.ofTables_ok (len : Nat) (skips : Array Nat) (ms : List (Nat × Nat × Nat))
    (hsk : skips.size = len + 1) : InputOK (Input.ofTables len skips ms) :=
  ⟨fun _ _ _ h => (Input.ofTables_mlen h).2, fun p => (Input.ofTables_skip len skips ms p).2.1,
    fun _ => Option.eq_none_iff_forall_ne_some.mpr fun _ h => (Input.ofTables_mlen h).1 rfl⟩

theorem Input.ofTables_mono (len : Nat) (skips : Array Nat) (ms : List (Nat × Nat × Nat)) :
    InputMono (Input.ofTables len skips ms) :=
  ⟨fun p => (Input.ofTables_skip len skips ms p).1⟩

/-- Layout skipping is idempotent on the positions of the text (beyond it nothing is skipped). -/
def skipIdemB (inp : Input) : Bool :=
  (List.range (inp.len + 1)).all (fun p => inp.skip (inp.skip p) == inp.skip p)

theorem Input.ofTables_idem (len : Nat) (skips : Array Nat) (ms : List (Nat × Nat × Nat))
    (h : skipIdemB (Input.ofTables len skips ms) = true) :
    ∀ p, (Input.ofTables len skips ms).skip ((Input.ofTables len skips ms).skip p) =
      (Input.ofTables len skips ms).skip p := by
  intro p
  by_cases hp : p ≤ len
  · rw [skipIdemB, List.all_eq_true] at h
    exact beq_iff_eq.mp (h p (List.mem_range.mpr (Nat.lt_succ_of_le hp)))
  · have hfix := (Input.ofTables_skip len skips ms p).2.2 hp
    rw [hfix, hfix]

structure StateData where
  sym : Sym
  cells : List (Nat × List Action)
  finish : List Bool
  gotoL : List (Nat × Nat)
deriving Inhabited

/-- A table from the list of its states and the terminal attributes (priority, prefer). -/
def Table.ofStates (states : Array StateData) (terms : Array (Nat × Bool)) : Table :=
  { n := states.size
    sym := fun s => match states[s]? with | some d => d.sym | none => .nt 0
    cells := fun s => match states[s]? with | some d => d.cells | none => []
    finish := fun s => match states[s]? with | some d => d.finish | none => []
    gotoL := fun s => match states[s]? with | some d => d.gotoL | none => []
    prior := fun t => match terms[t]? with | some d => d.1 | none => 0
    prefer := fun t => match terms[t]? with | some d => d.2 | none => false }

/-- The side condition of `C04_exact_when_deterministic`. -/
theorem Table.ofStates_fin (states : Array StateData) (terms : Array (Nat × Bool)) :
    ∀ s, (Table.ofStates states terms).n ≤ s →
      (Table.ofStates states terms).cells s = [] ∧ (Table.ofStates states terms).finish s = [] := by
  intro s hs
  have : states[s]? = none := Array.getElem?_eq_none hs
  simp only [Table.ofStates, this, and_self]

end Pg
