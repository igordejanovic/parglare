import PgVerif.Model.LR
import PgVerif.Model.Decode
import PgVerif.Model.GLR
import PgVerif.Proofs.GLRForest
import PgVerif.Model.Forest
import PgVerif.Spec.SPPF
import PgVerif.Model.Pos
import PgVerif.Spec.Viable
import PgVerif.Model.LineCol
import PgVerif.Model.TableGen
import PgVerif.Spec.LR1
import PgVerif.Spec.LRValid
import PgVerif.Proofs.LRDet
import PgVerif.Spec.Prec
import PgVerif.Spec.LexRules
import PgVerif.Proofs.LexRules
import PgVerif.Proofs.ForestConcrete
import PgVerif.Model.Actions
import PgVerif.Model.Recovery
import PgVerif.Model.Cache
import PgVerif.Model.Layout
import PgVerif.Generated.Source
/-!
`pgmodel`: line-protocol driver. One request per line (a command word followed
by natural numbers), one reply line per request. Context commands (`grammar`,
`table`, `input`, `forest`) set the data the query commands work on.

Symbol encoding: nonterminal k ↦ 2k, terminal k ↦ 2k+1.
-/
open Pg

abbrev Rd := StateT (List Nat) Option

def rd : Rd Nat := do
  let s ← get
  match s with
  | [] => failure
  | x :: xs => set xs; pure x

def rdList {α : Type} (p : Rd α) : Rd (List α) := do
  let n ← rd
  let rec go : Nat → List α → Rd (List α)
    | 0, acc => pure acc.reverse
    | k + 1, acc => do let x ← p; go k (x :: acc)
  go n []

def decSym (n : Nat) : Sym := if n % 2 == 0 then .nt (n / 2) else .t (n / 2)
def encSym : Sym → Nat
  | .nt k => 2 * k
  | .t k => 2 * k + 1

def rdGrammar : Rd Grammar := do
  let start ← rd
  let prods ← rdList (do
    let lhs ← rd
    let rhs ← rdList (decSym <$> rd)
    pure ({ lhs := lhs, rhs := rhs } : Prod))
  pure { prods := prods, start := start }

def rdAction : Rd Action := do
  let k ← rd
  let a ← rd
  match k with
  | 0 => pure (.shift a)
  | 1 => pure (.reduce a)
  | _ => pure .accept

def rdTable : Rd Table := do
  let states ← rdList (do
    let sym ← decSym <$> rd
    let cells ← rdList (do
      let term ← rd
      let fin ← rd
      let acts ← rdList rdAction
      pure (term, fin != 0, acts))
    let gotos ← rdList (do let a ← rd; let s ← rd; pure (a, s))
    pure ({ sym := sym, cells := cells.map (fun c => (c.1, c.2.2)),
            finish := cells.map (fun c => c.2.1), gotoL := gotos } : StateData))
  let terms ← rdList (do let p ← rd; let f ← rd; pure (p, f != 0))
  -- `Table.ofStates` (Model/Decode.lean): empty beyond its states, proved there
  pure (Table.ofStates states.toArray terms.toArray)

def rdInput : Rd Input := do
  let len ← rd
  let skips ← rdList rd
  let ms ← rdList (do let t ← rd; let p ← rd; let l ← rd; pure (t, p, l))
  -- `Input.ofTables` (Model/Decode.lean): `InputOK` and `InputMono` are proved for every decoded input
  -- whose skip table has one entry per position
  if skips.length != len + 1 then failure
  pure (Input.ofTables len skips.toArray ms)

def rdForest : Rd Forest :=
  rdList (do
    let alts ← rdList (do
      let k ← rd
      if k == 0 then
        let t ← rd; let s ← rd; let e ← rd
        pure (Alt.term t s e)
      else
        let p ← rd; let s ← rd; let e ← rd
        let cs ← rdList rd
        pure (Alt.nonterm p s e cs))
    pure ({ alts := alts } : PNode))

partial def rdTree : Rd Tree := do
  let k ← rd
  if k == 0 then
    let t ← rd; let s ← rd; let e ← rd
    pure (.leaf t s e)
  else
    let p ← rd; let s ← rd; let e ← rd
    let cs ← rdList rdTree
    pure (.node p s e cs)

partial def showTree : Tree → String
  | .leaf t s e => s!"(L {t} {s} {e})"
  | .node p s e cs => s!"(N {p} {s} {e}" ++ String.join (cs.map (fun c => " " ++ showTree c)) ++ ")"

def showOutcome : Outcome → String
  | .ok t e p => s!"ok {e} {p} {showTree t}"
  | .syntaxError p => s!"syntax {p}"
  | .disambError p ts => s!"disamb {p} {ts}"
  | .crash => "crash"
  | .outOfFuel => "fuel"

def rdGGrammar : Rd GGrammar := do
  let nnt ← rd
  let prods ← rdList (do
    let lhs ← rd
    let rhs ← rdList (decSym <$> rd)
    let prior ← rd; let assoc ← rd; let nops ← rd; let nopse ← rd
    pure ({ lhs := lhs, rhs := rhs, prior := prior, assoc := assoc, nops := nops != 0, nopse := nopse != 0 } : ProdInfo))
  let terms ← rdList (do
    let prior ← rd; let weight ← rd; let strLike ← rd; let finish ← rd
    let fqn ← rdList rd
    pure ({ prior := prior, weight := weight, strLike := strLike != 0, finish := finish, fqn := fqn } : TermInfo))
  pure { prods := prods, nnt := nnt, nterm := terms.length, terms := terms }

def encAction : Action → List Nat
  | .shift s => [0, s]
  | .reduce p => [1, p]
  | .accept => [2, 0]

def encGenTable (t : GenTable) : List Nat :=
  [t.states.length] ++ (t.states.zip t.finish).flatMap (fun (s, ff) =>
    [encSym s.sym, s.actions.length] ++
    (s.actions.zip ff).flatMap (fun (c, f) =>
      [c.1, if f then 1 else 0, c.2.length] ++ c.2.flatMap encAction) ++
    [s.gotos.length] ++ s.gotos.flatMap (fun x => [x.1, x.2]))

partial def showETree : ETree → String
  | .num => "n"
  | .bin k l r => s!"({k} {showETree l} {showETree r})"
  | .paren t => s!"[{showETree t}]"

def decETok (n : Nat) : ETok :=
  match n with
  | 0 => .num
  | 1 => .lpar
  | 2 => .rpar
  | k + 3 => .op k

def decBuiltin (n : Nat) : Builtin :=
  match n with
  | 0 => .passNone | 1 => .passNochange | 2 => .passEmpty | 3 => .passSingle | 4 => .passInner
  | 5 => .collectFirst | 6 => .collectFirstSep | 7 => .collectRightFirst | 8 => .collectRightFirstSep
  | _ => .zeroAction

def rdActEnv : Rd ActEnv := do
  let prods ← rdList (do
    let k ← rd
    let named ← rdList (do let i ← rd; let b ← rd; pure (i, b != 0))
    let kind : ActKind := if k == 0 then .default else if k == 1 then .user else if k == 20 then .obj
      else .builtin (decBuiltin (k - 2))
    pure ({ kind := kind, named := named } : ProdAct))
  let terms ← rdList rd
  let ta := terms.toArray
  pure { prods := prods, termUser := fun t => match ta[t]? with | some x => x != 0 | none => false }

def jsonStr (cs : List Nat) : String :=
  "\"" ++ String.join (cs.map (fun c =>
    if c == 34 then "\\\"" else if c == 92 then "\\\\" else
    if c < 32 || c > 126 then "\\u" ++ (String.ofList (Nat.toDigits 16 c)).pushn '0' 0 |> fun h =>
      "\\u" ++ String.ofList (List.replicate (4 - (Nat.toDigits 16 c).length) '0') ++ String.ofList (Nat.toDigits 16 c)
    else String.singleton (Char.ofNat c))) ++ "\""

/-- `json.dump(table_to_serializable(table), f, sort_keys=True)`. -/
def pgcJson (T : Table) (ntNames tNames : List (List Nat)) : String :=
  let symName : Sym → List Nat := fun s => match s with
    | .nt k => ntNames.getD k []
    | .t k => tNames.getD k []
  let act : SerAction → String := fun a =>
    "{\"action\": " ++ toString a.action ++
    (match a.prodId with | some p => ", \"prod_id\": " ++ toString p | none => "") ++
    (match a.stateId with | some s => ", \"state_id\": " ++ toString s | none => "") ++ "}"
  let st : Nat → String := fun i =>
    let cells := T.cells i
    "{\"actions\": [" ++ ", ".intercalate (cells.map (fun c =>
        "[" ++ jsonStr (tNames.getD c.1 []) ++ ", [" ++ ", ".intercalate (c.2.map (fun a => act (dumpAction a))) ++ "]]")) ++
    "], \"finish_flags\": [" ++ ", ".intercalate ((T.finish i).map (fun b => if b then "true" else "false")) ++
    "], \"gotos\": [" ++ ", ".intercalate ((T.gotoL i).map (fun g =>
        "[" ++ jsonStr (ntNames.getD g.1 []) ++ ", " ++ toString g.2 ++ "]")) ++
    "], \"state_id\": " ++ toString i ++ ", \"symbol\": " ++ jsonStr (symName (T.sym i)) ++ "}"
  "[" ++ ", ".intercalate ((List.range T.n).map st) ++ "]"

structure St where
  g : Grammar := default
  gg : GGrammar := default
  T : Option Table := none
  inp : Option Input := none
  F : Forest := []
  env : ActEnv := { prods := [], termUser := fun _ => false }
  ntNames : List (List Nat) := []
  tNames : List (List Nat) := []
  /-- final state of the last `glr` command that answered with a forest -/
  glrS : Option GLR.GState := none

def natList (l : List Nat) : String := " ".intercalate (l.map toString)

def handle (st : St) (cmd : String) (args : List Nat) : St × String :=
  match cmd with
  | "grammar" =>
    match rdGrammar.run args with
    | some (g, _) => ({ st with g := g }, "ok")
    | none => (st, "bad-grammar")
  | "ggrammar" =>
    match rdGGrammar.run args with
    | some (g, _) => ({ st with gg := g }, "ok")
    | none => (st, "bad-ggrammar")
  | "tablegen" =>
    -- tablegen <lr1> <prefer_shifts> <pse> <start_prod> <lexdis> <fuel>
    match args with
    | [lr1, ps, pse, sp, lexdis, fuel] =>
      (st, match createTable st.gg { lr1 := lr1 != 0, preferShifts := ps != 0, preferShiftsOverEmpty := pse != 0,
                                     startProd := sp } Src.sortW1 Src.sortW2 (lexdis != 0) fuel with
        | some t => "table " ++ natList (encGenTable t)
        | none => "table fuel")
    | _ => (st, "bad-tablegen")
  | "lr1ref" =>
    match args with
    | [sp, fuel] =>
      (st, match canonicalLR1 st.gg sp fuel with
        | some cs => s!"lr1ref {cs.length}"
        | none => "lr1ref fuel")
    | _ => (st, "bad-lr1ref")
  | "faithful" =>
    match st.T, args with
    | some T, [sp, lalr, fuel] =>
      (st, match faithful st.gg T sp (lalr != 0) fuel with
        | some .ok => "faithful ok"
        | some (.missing s a k p) => s!"faithful missing state={s} symbol={a} kind={k} prod={p}"
        | some (.extra s a p) => s!"faithful extra state={s} terminal={a} prod={p}"
        | none => "faithful fuel")
    | _, _ => (st, "bad-faithful")
  | "climb" =>
    -- climb <nops> {prio left} <ntoks> {tok}
    match (do
      let ops ← rdList (do let p ← rd; let l ← rd; pure (p, l != 0))
      let toks ← rdList (decETok <$> rd)
      pure (ops, toks) : Rd (List (Nat × Bool) × List ETok)).run args with
    | some ((ops, toks), _) =>
      let ot : OpTable := { prio := fun k => (ops.getD k (0, true)).1, left := fun k => (ops.getD k (0, true)).2 }
      (st, match climb ot toks with
        | some t => "climb " ++ showETree t ++ (if t.conventional ot then " conv" else " NOTCONV")
        | none => "climb none")
    | none => (st, "bad-climb")
  | "names" =>
    match (do let a ← rdList (rdList rd); let b ← rdList (rdList rd); pure (a, b) : Rd _).run args with
    | some ((a, b), _) => ({ st with ntNames := a, tNames := b }, "ok")
    | none => (st, "bad-names")
  | "pgcjson" =>
    match st.T with
    | some T => (st, "pgc " ++ pgcJson T st.ntNames st.tNames)
    | none => (st, "no-table")
  | "actenv" =>
    match rdActEnv.run args with
    | some (e, _) => ({ st with env := e }, "ok")
    | none => (st, "bad-actenv")
  | "eval" =>
    match rdTree.run args with
    | some (t, _) => (st, "eval " ++ (t.eval st.env).show)
    | none => (st, "bad-tree")
  | "keysok" =>
    -- is `act_order` a strict total order on this grammar's terminals?
    let ts := st.gg.terms
    let n := ts.length
    let ok := (List.range n).all (fun i => (List.range n).all (fun j =>
      let a := ts.getD i default
      let b := ts.getD j default
      if i == j then !(before Src.sortW1 Src.sortW2 a a)
      else (before Src.sortW1 Src.sortW2 a b) != (before Src.sortW1 Src.sortW2 b a)))
    (st, if ok then "keysok 1" else "keysok 0")
  | "skipws" =>
    -- skipws <nws> {ws code points} <n> {text code points}: skip table for every position
    match (do let ws ← rdList rd; let text ← rdList rd; pure (ws, text) : Rd _).run args with
    | some ((ws, text), _) =>
      (st, "skipws " ++ natList ((List.range (text.length + 1)).map (skipWs (fun c => ws.contains c) text)))
    | none => (st, "bad-skipws")
  | "firstsets" => (st, "firstsets " ++ natList (firstSets st.gg))
  | "table" =>
    match rdTable.run args with
    | some (T, _) => ({ st with T := some T }, "ok")
    | none => (st, "bad-table")
  | "input" =>
    match rdInput.run args with
    | some (i, _) => ({ st with inp := some i }, "ok")
    | none => (st, "bad-input")
  | "forest" =>
    match rdForest.run args with
    | some (F, _) => ({ st with F := F }, "ok")
    | none => (st, "bad-forest")
  | "wf" =>
    match st.T with
    | some T => (st, if T.wf st.g then "wf 1" else "wf 0")
    | none => (st, "no-table")
  | "lr" =>
    match st.T, st.inp, args with
    | some T, some inp, [consume, lexdis, fuel] =>
      (st, showOutcome (parseLR st.g T inp { consumeInput := consume != 0, lexDis := lexdis != 0 } fuel))
    | _, _, _ => (st, "bad-lr")
  | "lrrec" =>
    match st.T, st.inp, args with
    | some T, some inp, [consume, lexdis, fuel] =>
      let r := parseLRrec st.g T inp { consumeInput := consume != 0, lexDis := lexdis != 0 } fuel
      (st, showOutcome r.1 ++ " | " ++ natList (r.2.flatMap (fun x => [x.1, x.2])))
    | _, _, _ => (st, "bad-lrrec")
  | "tokens" =>
    -- tokens <state> <pos> <consume> <lexdis>
    match st.T, st.inp, args with
    | some T, some inp, [s, p, consume, lexdis] =>
      let toks := nextTokens T inp (consume != 0) (lexdis != 0) s p
      (st, "tokens " ++ natList (toks.flatMap (fun t => [t.term, t.len])))
    | _, _, _ => (st, "bad-tokens")
  | "rules" =>
    -- rules <state> <pos> <lexdis> <strlike flag per terminal...>: the documented rule set on the candidates
    match st.T, st.inp, args with
    | some T, some inp, s :: p :: lexdis :: flags =>
      let strLike := fun t => flags.getD t 0 != 0
      let cands := candidates T inp s p
      let toks := if lexdis != 0 then lexRules T strLike cands else topPriority T cands
      (st, "rules " ++ natList (toks.flatMap (fun t => [t.term, t.len])))
    | _, _, _ => (st, "bad-rules")
  | "lexhyp" =>
    -- lexhyp <state> <pos> <strlike flag per terminal...>: the decidable hypotheses of
    -- C07_next_tokens_eq_rules / C07_next_tokens_nolex on this table, state and position
    match st.T, st.inp, args with
    | some T, some inp, s :: p :: flags =>
      let strLike := fun t => flags.getD t 0 != 0
      let b := fun (x : Bool) => if x then 1 else 0
      (st, "lexhyp " ++ natList [b ((T.finish s).length == (T.cells s).length),
        b (lexSortedB T strLike (T.expected s)), b (flagsOKB T strLike (T.expected s)),
        b (strDecB T inp strLike p (T.expected s)), b ((T.expected s).all (fun x => !x.2))])
    | _, _, _ => (st, "bad-lexhyp")
  | "sentence" =>
    match st.inp, args with
    | some inp, [fuel] =>
      (st, match isSentence st.g inp fuel with
        | some b => if b then "sentence 1" else "sentence 0"
        | none => "sentence fuel")
    | _, _ => (st, "bad-sentence")
  | "prefix" =>
    match st.inp, args with
    | some inp, [fuel] =>
      (st, match isPrefixSentence st.g inp fuel with
        | some b => if b then "prefix 1" else "prefix 0"
        | none => "prefix fuel")
    | _, _ => (st, "bad-prefix")
  | "derives" =>
    -- derives <consume> <tree...>: is the tree a parse (prefix parse) of the input?
    match st.inp, args with
    | some inp, consume :: rest =>
      (match rdTree.run rest with
       | some (t, _) =>
         let ok := t.valid st.g && (t.sym st.g == some (Sym.nt st.g.start)) &&
           (match chain inp 0 t.yield with
            | some e => consume == 0 || inp.skip e == inp.len
            | none => false)
         (st, if ok then "derives 1" else "derives 0")
       | none => (st, "bad-tree"))
    | _, _ => (st, "bad-derives")
  | "sppf" =>
    -- sppf <fuel> <consume>: packed alternatives of the complete SPPF: A i j p n k1..kn ...
    match st.inp, args with
    | some inp, [fuel, consume] =>
      (st, match sppfAlts st.g inp fuel (consume != 0) with
        | some alts => "sppf " ++ natList (alts.flatMap (fun a => [a.A, a.i, a.j, a.p, a.ks.length] ++ a.ks))
        | none => "sppf fuel")
    | _, _ => (st, "bad-sppf")
  | "posok" =>
    -- posok <len> <tree...>
    match args with
    | len :: rest =>
      (match rdTree.run rest with
       | some (t, _) => (st, if t.posOK && t.inBounds len then "posok 1" else "posok 0")
       | none => (st, "bad-tree"))
    | _ => (st, "bad-posok")
  | "posokr" =>
    -- posokr <tree...>: positions well formed modulo layout (needs `input`)
    match st.inp with
    | some inp =>
      (match rdTree.run args with
       | some (t, _) => (st, if t.posOKModLayout inp then "posokr 1" else "posokr 0")
       | none => (st, "bad-tree"))
    | none => (st, "bad-posokr")
  | "viable" =>
    match st.inp, args with
    | some inp, [fuel] =>
      (st, match viableEnds st.g inp fuel with
        | some l => "viable " ++ natList l
        | none => "viable fuel")
    | _, _ => (st, "bad-viable")
  | "nextterms" =>
    -- nextterms <fuel> <rawEnd> <terminals...>
    match st.inp, args with
    | some inp, fuel :: r :: terms =>
      (st, match nextTerminals st.g inp fuel r terms with
        | some l => "nextterms " ++ natList l
        | none => "nextterms fuel")
    | _, _ => (st, "bad-nextterms")
  | "linecol" =>
    -- linecol <pos> <code points...>
    match args with
    | pos :: text => let r := posToLineCol text pos; (st, s!"linecol {r.1} {r.2}")
    | _ => (st, "bad-linecol")
  | "lrvalid" =>
    -- lrvalid <nstates {nitems {prod dot nla la*}*}*> <nnt {nul nfst fst*}*>: the completeness validator of
    -- Spec/LRValid.lean on the current grammar and table with the implementation's item sets and FIRST data
    match st.T, (do
        let items ← rdList (rdList (do
          let p ← rd; let d ← rd; let la ← rdList rd
          pure ({ prod := p, dot := d, la := la } : LRV.VItem)))
        let fd ← rdList (do let nul ← rd; let fst ← rdList rd; pure (nul != 0, fst))
        pure (items, fd) : Rd _).run args with
    | some T, some ((items, fd), _) =>
      let I := fun s => items.getD s []
      let F : LRV.FirstData := { fst := fun A => (fd.getD A (false, [])).2, nul := fun A => (fd.getD A (false, [])).1 }
      (st, if LRV.lrComplete st.g T I F then "lrvalid 1" else
        -- say which part fails
        let bad := (List.range T.n).filter (fun s => !(I s).all (LRV.itemOK st.g T I F s))
        s!"lrvalid 0 closed={F.closed st.g} start={LRV.hasItem (I 0) 0 0 []} badstates={bad.take 5}")
    | _, _ => (st, "bad-lrvalid")
  | "lrsound" =>
    -- lrsound <nstates {nitems {prod dot nla la*}*}*> ...: soundness of the item sets (LRV.lrSound): the hypothesis
    -- of the correct-prefix theorem C10_stack_begins_a_sentential_form
    match st.T, (do
        let items ← rdList (rdList (do
          let p ← rd; let d ← rd; let la ← rdList rd
          pure ({ prod := p, dot := d, la := la } : LRV.VItem)))
        pure items : Rd _).run args with
    | some T, some (items, _) =>
      let I := fun s => items.getD s []
      (st, if LRV.lrSound st.g T I then "lrsound 1" else
        let bad := (List.range T.n).filter (fun s => (I s).isEmpty || !(I s).all (LRV.itemSoundOK st.g T I s))
        s!"lrsound 0 badstates={bad.take 5}")
    | _, _ => (st, "bad-lrsound")
  | "glr" =>
    -- glr <fuel> <consume> <lexdis>: the GLR driver model on the current grammar, table and input; packed alternatives of
    -- the forest: sym s e prod n (sym s e)*
    match st.T, st.inp, args with
    | some T, some inp, [fuel, consume, lexdis] =>
      (match GLR.parseGLR st.g T inp (consume != 0) (lexdis != 0) fuel with
        | .forest s =>
          let alts := GLR.reachableAlts T s ((s.links.size + 2) * (s.links.size + 2) * 8 + 1000)
          ({ st with glrS := some s }, "glr forest " ++ natList (alts.flatMap (fun a =>
            [encSym a.1.1, a.1.2.1, a.1.2.2, a.2.1, a.2.2.length] ++
              a.2.2.flatMap (fun k => [encSym k.1, k.2.1, k.2.2]))))
        | .syntaxError => ({ st with glrS := none }, "glr syntax")
        | .orderSensitive => ({ st with glrS := none }, "glr ordersens")
        | .crash => ({ st with glrS := none }, "glr crash")
        | .outOfFuel => ({ st with glrS := none }, "glr fuel"))
    | _, _, _ => (st, "bad-glr")
  | "glrtree" =>
    -- glrtree <tree...>: is the tree packed under a root link of the forest of the last `glr` command?
    -- (hypothesis of C01_tree_found_in_glr_model_forest_is_parse)
    match st.glrS with
    | some s =>
      (match rdTree.run args with
       | some (t, _) => (st, if GLR.forestHasTree s t then "glrtree 1" else "glrtree 0")
       | none => (st, "bad-tree"))
    | none => (st, "glrtree none")
  | "skipidem" =>
    -- skipidem: hypothesis of C01_glr_model_sound on the current input (layout skipping idempotent)
    match st.inp with
    | some inp => (st, if skipIdemB inp then "skipidem 1" else "skipidem 0")
    | none => (st, "bad-skipidem")
  | "detok" =>
    -- detok: the executable hypotheses of C04_exact_when_deterministic on the current table and input:
    -- <detTableB: every cell at most one action, finish flags per cell, cell terminals distinct>
    -- <lexDetB: no two expected terminals of a state match the same position>
    match st.T, st.inp with
    | some T, some inp =>
      let b := fun (x : Bool) => if x then 1 else 0
      (st, "detok " ++ natList [b (detTableB T), b (lexDetB T inp)])
    | _, _ => (st, "bad-detok")
  | "fwf" => (st, if st.F.wf then "fwf 1" else "fwf 0")
  | "fkeyed" =>
    -- fkeyed <lhs of production 0> <lhs of production 1> ...: hypothesis of C03_parse_trees_pairwise_distinct
    (st, if st.F.keyed (fun p => args.getD p 0) then "fkeyed 1" else "fkeyed 0")
  | "sols" =>
    match args with
    | [root] => (st, s!"sols {solutions st.F root}")
    | _ => (st, "bad-sols")
  | "amb" =>
    match args with
    | [root] => (st, s!"amb {ambiguities st.F root}")
    | _ => (st, "bad-amb")
  | "loop" =>
    match args with
    | [root] => (st, if loopError st.F root then "loop 1" else "loop 0")
    | _ => (st, "bad-loop")
  | "treeat" =>
    match args with
    | [root, i] =>
      (st, match getTree st.F root i with
        | .tree t => "tree " ++ showTree (t.concrete st.F)
        | .indexError => "indexerror")
    | _ => (st, "bad-treeat")
  | "first" =>
    match args with
    | [root] =>
      (st, match firstTree st.F root with
        | some t => "tree " ++ showTree (t.concrete st.F)
        | none => "none")
    | _ => (st, "bad-first")
  | _ => (st, "bad-op")

partial def loop (h : IO.FS.Stream) (out : IO.FS.Stream) (st : St) : IO Unit := do
  let line ← h.getLine
  if line.isEmpty then return ()
  let toks := (line.trimAscii.toString.splitOn " ").filter (· ≠ "")
  match toks with
  | [] => out.putStrLn "bad-op"; loop h out st
  | cmd :: rest =>
    match rest.mapM String.toNat? with
    | none => out.putStrLn "bad-args"; loop h out st
    | some args =>
      let (st', reply) := handle st cmd args
      out.putStrLn reply
      loop h out st'

def main : IO Unit := do
  let stdin ← IO.getStdin
  let stdout ← IO.getStdout
  loop stdin stdout {}
