import PgVerif.Properties.C01
import PgVerif.Properties.C02
import PgVerif.Properties.C03
import PgVerif.Properties.C04
import PgVerif.Properties.C05
import PgVerif.Properties.C06
import PgVerif.Properties.C07
import PgVerif.Properties.C08
import PgVerif.Properties.C09
import PgVerif.Properties.C10
import PgVerif.Properties.C11
import PgVerif.Properties.C12
import PgVerif.Properties.C13
import PgVerif.Properties.C14
import PgVerif.Properties.C15
import PgVerif.Properties.C16
import PgVerif.Properties.C17
import PgVerif.Properties.C18
import PgVerif.Properties.C19
import PgVerif.Properties.C20
